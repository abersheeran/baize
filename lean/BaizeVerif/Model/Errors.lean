/-
Exception-flow model of baize's public entry points (property C12).

Every entry point is a small program over *calls*:

* `std β key kind chain`   a call of a standard-library function.  `kind` names the function and thereby its
                           DECLARED raise-set (`declared kind`, the trusted part of this model, validated by
                           sampling on every run); `β` (the behaviour) says what the call did on the input at
                           hand (`β.get key` = "" / "ok": returned, otherwise the class it raised); `chain` is the
                           stack of `try` statements around the call site, GENERATED from the source
                           (`Gen/Errors.lean`, tools/gen/c12.py): innermost first, each level its `except`
                           clauses in order.
* `inner chain prog`       a call of another anchored function (a sub-program) from a site with that chain.
* `raiseAt site`           an explicit `raise X(...)` statement (class, status, message and chain generated).

An exception walks the chain exactly as in Python (`handle`): the first clause of the innermost level whose
class list contains a superclass of the exception's class decides; "value" swallows it, "raise" replaces it by
the handler's own exception which continues with the OUTER levels, "errno" swallows it iff its errno is listed,
"reraise" passes it on.  What leaves the outermost level leaves the function.

The outcome of an entry point is `Out`: a value (`ok`), the lenient `None` (`none`), a response (`resp`),
`http n` (an HTTPException), the two documented errors, or `crash cls` — any other exception.  Nothing is
totalised: where no handler matches, the model says `crash`.  Property C12 = `crash` is unreachable
(Props/C12.lean), for every behaviour that stays inside the declared raise-sets.

Core Lean only.
-/
import BaizeVerif.Model.Wire
import BaizeVerif.Gen.Errors

namespace Baize.Errors

/-! ## exceptions, handler chains -/

/-- one `except` clause: classes, action ("value" | "raise" | "errno" | "reraise"), status, names -/
abbrev RawHandler := List String × String × Nat × List String
/-- innermost `try` first -/
abbrev Chain := List (List RawHandler)
/-- explicit raise: class, status, message literal, chain around it -/
abbrev RaiseSite := String × Nat × String × Chain

structure Exc where
  cls : String
  status : Nat := 0      -- status code of an HTTPException
  errno : String := ""   -- errno name of an OSError
  undeclared : Bool := false   -- driver only: `cls` describes a raise outside the declared raise-set
  deriving DecidableEq, Repr

/-- the documented `RuntimeError("Stream consumed")` is tracked as a pseudo-subclass of RuntimeError -/
def consumedCls : String := "RuntimeError(Stream consumed)"
def consumedMsg : String := "Stream consumed"

/-- ancestors of a class, itself first (generated from the running interpreter / baize/exceptions.py) -/
def ancestorsOf (cls : String) : List String :=
  if cls == consumedCls then consumedCls :: (Gen.Errors.ancestors.lookup "RuntimeError").getD ["RuntimeError"]
  else (Gen.Errors.ancestors.lookup cls).getD [cls]

/-- `issubclass(cls, anc)` -/
def isSub (cls anc : String) : Bool := (ancestorsOf cls).contains anc

def handlerMatches (h : RawHandler) (e : Exc) : Bool := h.1.any (isSub e.cls ·)

inductive Caught where
  | swallowed
  | thrown (e : Exc)
  deriving DecidableEq, Repr

/-- Python's search for a handler, level by level from the innermost `try` -/
def handle : Chain → Exc → Caught
  | [], e => .thrown e
  | level :: outer, e =>
    match level.find? (handlerMatches · e) with
    | none => handle outer e
    | some (_, act, status, names) =>
      if act == "value" then .swallowed
      else if act == "raise" then handle outer { cls := names.headD "Exception", status := status }
      else if act == "errno" then (if names.contains e.errno then .swallowed else handle outer e)
      else handle outer e

/-! ## outcomes -/

inductive Out where
  | ok | none | resp
  | http (status : Nat)
  | disconnect | consumed
  | crash (cls : String)
  | undeclared (what : String)     -- a stdlib call raised a class outside its declared raise-set (driver only)
  deriving DecidableEq, Repr

def Out.render : Out → String
  | .ok => "ok" | .none => "none" | .resp => "resp"
  | .http n => s!"http {n}" | .disconnect => "disconnect" | .consumed => "consumed"
  | .crash c => s!"crash {c}" | .undeclared w => s!"undeclared {w}"

/-- what the property allows -/
def Out.good : Out → Bool
  | .ok | .none | .resp | .disconnect | .consumed => true
  | .http n => 400 ≤ n && n < 500
  | _ => false

def Exc.out (e : Exc) : Out :=
  if e.undeclared then .undeclared e.cls
  else if isSub e.cls "HTTPException" then .http e.status
  else if e.cls == "ClientDisconnect" then .disconnect
  else if e.cls == consumedCls then .consumed
  else .crash e.cls

/-- the exception is one the property allows to leave an entry point -/
def Exc.benign (e : Exc) : Bool := e.out.good

inductive Val where
  | ok | none | resp
  deriving DecidableEq, Repr

abbrev M := Except Exc

def outcome : M Val → Out
  | .ok .ok => .ok
  | .ok .none => .none
  | .ok .resp => .resp
  | .error e => e.out

/-! ## declared raise-sets (TRUSTED; validated by sampling: harness/c12.py feeds every generated input to the
function itself and a class outside the set is reported by the driver as `undeclared`) -/

def declared : String → List String
  | "int" => ["ValueError"]                                    -- non-digits; more than 4300 digits
  | "decodeCharset" => ["UnicodeDecodeError", "UnicodeError", "LookupError", "ValueError", "UnicodeEncodeError"]
                                                               -- bad bytes; codecs "undefined"/"idna"; unknown or
                                                               -- non-text codec; NUL / lone surrogate in the name
  | "encodeLatin1" => ["UnicodeEncodeError"]
  | "jsonLoads" => ["JSONDecodeError", "RecursionError", "ValueError", "UnicodeDecodeError"]
  | "parsedate" => ["ValueError", "TypeError", "OverflowError"]
  | "timestamp" => ["ValueError", "OverflowError"]
  | "urlsplit" => ["ValueError"]
  | "unpack2" => ["ValueError"]                                 -- `a, b = s.split(sep, 1)` without sep
  | "decimal" => ["InvalidOperation", "ValueError"]
  | "uuid" => ["ValueError"]
  | "dateCtor" => ["ValueError"]                               -- month/day out of range (the fields are 4/2/2 digits)
  | "osStat" => ["FileNotFoundError", "NotADirectoryError", "ValueError", "UnicodeEncodeError", "OSError",
                 "PermissionError"]
  | "quote" => ["UnicodeEncodeError"]                           -- lone surrogates
  | "parseQsl" => []
  | "cookieUnquote" => []
  | "decodeLatin1" => []
  | "decodeLenient" => []
  | _ => []

/-- errno names an `OSError` of `os.stat` may carry on client input -/
def declaredErrno : List String := ["ENAMETOOLONG"]

/-! ## behaviours -/

/-- what the multipart parse of a body goes through, in order (computed from the body by the harness):
    `hdr c`   a part-header line is decoded (`safe_decode` in `_parse_headers`), `c` = class raised by
              `bytes.decode(charset)` (`none`: it returned)
    `fld c`   the data of a completed text field is decoded (`safe_decode` in `parse_stream`)
    `nocolon` a header line without ':'        (raise in `_parse_headers`)
    `nocd`    a part without Content-Disposition (raise in `next_event`)
    `toomany` more parts than `max_form_parts`  (raise in `parse_stream`) -/
inductive MpStep where
  | hdr (raised : Option String)
  | fld (raised : Option String)
  | nocolon | nocd | toomany
  deriving DecidableEq, Repr

/-- what the standard library did on the input at hand, plus the branch facts of the input -/
structure Beh where
  get : String → String
  steps : List MpStep := []

def Beh.raised (β : Beh) (key : String) : Option String :=
  if β.get key == "" || β.get key == "ok" || β.get key == "-" then Option.none else some (β.get key)

def Beh.flag (β : Beh) (key : String) : Bool := β.get key == "1"

def undeclaredExc (kind cls : String) : Exc := { cls := kind ++ ":" ++ cls, undeclared := true }

/-- a stdlib call whose outcome is given: `true` = returned, `false` = an enclosing handler swallowed its error -/
def stdWith (raised : Option String) (errno : String) (kind : String) (chain : Chain) : M Bool :=
  match raised with
  | Option.none => pure true
  | some cls =>
    if !(declared kind).contains cls then throw (undeclaredExc kind cls)
    else match handle chain { cls := cls, errno := errno } with
      | .swallowed => pure false
      | .thrown e => throw e

def std (β : Beh) (key kind : String) (chain : Chain) : M Bool :=
  stdWith (β.raised key) (β.get (key ++ ".errno")) kind chain

/-- a sub-program called from a site with the given chain; `none` = its exception was swallowed there -/
def inner {α : Type} (chain : Chain) (x : M α) : M (Option α) :=
  match x with
  | .ok a => pure (some a)
  | .error e =>
    if e.undeclared then throw e
    else match handle chain e with
      | .swallowed => pure Option.none
      | .thrown e' => throw e'

/-- an explicit raise statement; `()` = an enclosing handler of the same function swallowed it -/
def raiseAt (s : RaiseSite) : M Unit :=
  let cls := if s.1 == "RuntimeError" && s.2.2.1 == consumedMsg then consumedCls else s.1
  match handle s.2.2.2 { cls := cls, status := s.2.1 } with
  | .swallowed => pure ()
  | .thrown e => throw e

open Gen.Errors

/-! ## header accessors (baize/requests.py, MoreInfoFromHeaderMixin) -/

/-- `accepted_types`, `accepts`, `content_type`, `headers`: string surgery only (parse_header, partition) -/
def pureAccessor (_β : Beh) : M Val := pure .ok

def contentLength (β : Beh) : M Val :=
  if β.flag "te_chunked" then pure .none
  else if !β.flag "has_cl" then pure .none
  else do
    let r ← std β "int" "int" mixin_content_length_int_0
    pure (if r then .ok else .none)

def cookies (β : Beh) : M Val := do
  let _ ← std β "unquote" "cookieUnquote" mixin_cookies_cookieUnquote_0
  pure .ok

def date (β : Beh) : M Val :=
  if !β.flag "has_date" then pure .none
  else do
    let r ← std β "parsedate" "parsedate" mixin_date_parsedate_0
    pure (if r then .ok else .none)

/-- `URL(url=text)`: only `urlsplit` -/
def urlFromText (β : Beh) : M Unit := do
  let _ ← std β "urlsplit" "urlsplit" ds_URL_init_urlsplit_0
  pure ()

def referrer (β : Beh) : M Val :=
  if !β.flag "has_ref" then pure .none
  else do
    let r ← inner mixin_referrer_call_URL_0 (urlFromText β)
    pure (if r.isSome then .ok else .none)

/-! ## request.url, query_params, client -/

/-- `URL(environ=...)`: SCRIPT_NAME+PATH_INFO and QUERY_STRING are re-encoded with Latin-1, the text is
decoded leniently, `_build_url` assembles, `urlsplit` splits.  (`int(SERVER_PORT)` and the scheme table lookup
act on server-supplied values: exempt.) -/
def urlFromEnviron (β : Beh) : M Unit := do
  let _ ← std β "path_enc" "encodeLatin1" ds_URL_init_encode_latin1_0
  let _ ← std β "path_dec" "decodeLenient" ds_URL_init_decodeLenient_0
  let _ ← std β "query_enc" "encodeLatin1" ds_URL_init_encode_latin1_1
  let _ ← inner ds_URL_init_call_build_url_1 (std β "query_dec" "decodeLenient" ds_URL_build_url_decodeLenient_0)
  let _ ← std β "urlsplit" "urlsplit" ds_URL_init_urlsplit_0
  pure ()

/-- `URL(scope=...)` -/
def urlFromScope (β : Beh) : M Unit := do
  let _ ← std β "host_dec" "decodeLatin1" ds_URL_init_decodeLatin1_0
  let _ ← inner ds_URL_init_call_build_url_0 (std β "query_dec" "decodeLenient" ds_URL_build_url_decodeLenient_0)
  let _ ← std β "urlsplit" "urlsplit" ds_URL_init_urlsplit_0
  pure ()

def urlW (β : Beh) : M Val := do
  let _ ← inner wsgi_conn_url_call_URL_0 (urlFromEnviron β)
  pure .ok

def urlA (β : Beh) : M Val := do
  let _ ← inner asgi_conn_url_call_URL_0 (urlFromScope β)
  pure .ok

def queryParamsW (β : Beh) : M Val := do
  let _ ← inner wsgi_conn_query_params_call_QueryParams_0 (std β "qsl" "parseQsl" ds_QueryParams_init_parseQsl_0)
  pure .ok

def queryParamsA (β : Beh) : M Val := do
  let _ ← inner asgi_conn_query_params_call_QueryParams_0 (do
    let _ ← std β "qs_dec" "decodeLatin1" ds_QueryParams_init_decodeLatin1_0
    std β "qsl" "parseQsl" ds_QueryParams_init_parseQsl_1)
  pure .ok

/-- WSGI `client`: `int(REMOTE_PORT)` — the value is supplied by the server, not by the client -/
def clientW (β : Beh) : M Val :=
  if !β.flag "has_remote" then pure .ok
  else do
    let _ ← std β "port" "int" wsgi_conn_client_int_0
    pure .ok

def clientA (_β : Beh) : M Val := pure .ok

/-! ## body -/

/-- WSGI `stream()` as driven to exhaustion: mode "c" = the stream was consumed before -/
def streamW (β : Beh) : M Unit :=
  if β.get "mode" == "c" then raiseAt wsgi_req_stream_raise_0 else pure ()

/-- ASGI `stream()`: mode "c" consumed, "d" the client disconnects before the last chunk -/
def streamA (β : Beh) : M Unit :=
  if β.get "mode" == "c" then raiseAt asgi_req_stream_raise_0
  else if β.get "mode" == "d" then raiseAt asgi_req_stream_raise_1
  else pure ()

def bodyW (β : Beh) : M Val := do
  let _ ← inner wsgi_req_body_call_stream_0 (streamW β)
  pure .ok

def bodyA (β : Beh) : M Val := do
  let _ ← inner asgi_req_body_call_stream_0 (streamA β)
  pure .ok

/-! ## json -/

def jsonW (β : Beh) : M Val :=
  if β.get "ct" != "json" then do raiseAt wsgi_req_json_raise_0; pure .ok
  else do
    let _ ← inner wsgi_req_json_call_body_0 (bodyW β)
    let _ ← std β "dec" "decodeCharset" wsgi_req_json_decodeCharset_0
    let _ ← std β "loads" "jsonLoads" wsgi_req_json_jsonLoads_0
    pure .ok

def jsonA (β : Beh) : M Val :=
  if β.get "ct" != "json" then do raiseAt asgi_req_json_raise_0; pure .ok
  else do
    let _ ← inner asgi_req_json_call_body_0 (bodyA β)
    let _ ← std β "dec" "decodeCharset" asgi_req_json_decodeCharset_0
    let _ ← std β "loads" "jsonLoads" asgi_req_json_jsonLoads_0
    pure .ok

/-! ## multipart (baize/multipart.py, baize/multipart_helper.py) -/

/-- `safe_decode(src, charset)`: decode, on a handled failure decode as Latin-1 (total) -/
def safeDecode (raised : Option String) : M Unit := do
  let r ← stdWith raised "" "decodeCharset" mp_safe_decode_decodeCharset_0
  if r then pure ()
  else do
    let _ ← stdWith Option.none "" "decodeLatin1" mp_safe_decode_decodeLatin1_0
    pure ()

/-- the site chains of one of the twins `parse_stream` / `parse_async_stream` -/
structure MpSites where
  nextEvent : Chain
  safeDecode : Chain
  tooMany : RaiseSite

def mpSitesSync : MpSites :=
  { nextEvent := mph_parse_stream_call_next_event_0, safeDecode := mph_parse_stream_call_safe_decode_0,
    tooMany := mph_parse_stream_raise_1 }

def mpSitesAsync : MpSites :=
  { nextEvent := mph_parse_async_stream_call_next_event_0,
    safeDecode := mph_parse_async_stream_call_safe_decode_0, tooMany := mph_parse_async_stream_raise_1 }

def mpStep (s : MpSites) : MpStep → M Unit
  | .hdr r => do
    let _ ← inner s.nextEvent (inner mp_next_event_call_parse_headers_0
      (inner mp_parse_headers_call_safe_decode_0 (safeDecode r)))
    pure ()
  | .fld r => do
    let _ ← inner s.safeDecode (safeDecode r)
    pure ()
  | .nocolon => do
    let _ ← inner s.nextEvent (inner mp_next_event_call_parse_headers_0 (raiseAt mp_parse_headers_raise_0))
    pure ()
  | .nocd => do
    let _ ← inner s.nextEvent (raiseAt mp_next_event_raise_0)
    pure ()
  | .toomany => raiseAt s.tooMany

/-- `parse_stream`: the steps in order; the first exception that leaves ends the parse -/
def parseStream (s : MpSites) : List MpStep → M Unit
  | [] => pure ()
  | st :: rest => do
    mpStep s st
    parseStream s rest

def parseStep (tok : String) : Option MpStep :=
  let dec (c : String) : Option String := if c == "ok" || c == "" then Option.none else some c
  match tok.splitOn ":" with
  | ["hdr", c] => some (.hdr (dec c))
  | ["fld", c] => some (.fld (dec c))
  | ["nocolon"] => some .nocolon
  | ["nocd"] => some .nocd
  | ["toomany"] => some .toomany
  | _ => Option.none

def parseSteps (tok : String) : List MpStep :=
  if tok == "" || tok == "-" then [] else (tok.splitOn ",").filterMap parseStep

/-! ## form -/

def formW (β : Beh) : M Val :=
  if β.get "ct" == "mp" then
    if !β.flag "has_boundary" then do raiseAt wsgi_req_form_raise_0; pure .ok
    else do
      let _ ← std β "benc" "encodeLatin1" wsgi_req_form_encode_latin1_0
      let _ ← inner wsgi_req_form_call_req_parse_multipart_0 (do
        let _ ← inner wsgi_req_parse_multipart_call_stream_0 (streamW β)
        let _ ← inner wsgi_req_parse_multipart_call_parse_multipart_0 (parseStream mpSitesSync β.steps)
        pure ())
      pure .ok
  else if β.get "ct" == "url" then do
    let _ ← inner wsgi_req_form_call_body_0 (bodyW β)
    let _ ← std β "dec" "decodeCharset" wsgi_req_form_decodeCharset_0
    let _ ← std β "qsl" "parseQsl" wsgi_req_form_parseQsl_0
    pure .ok
  else do raiseAt wsgi_req_form_raise_1; pure .ok

def formA (β : Beh) : M Val :=
  if β.get "ct" == "mp" then
    if !β.flag "has_boundary" then do raiseAt asgi_req_form_raise_0; pure .ok
    else do
      let _ ← std β "benc" "encodeLatin1" asgi_req_form_encode_latin1_0
      let _ ← inner asgi_req_form_call_req_parse_multipart_0 (do
        let _ ← inner asgi_req_parse_multipart_call_stream_0 (streamA β)
        let _ ← inner asgi_req_parse_multipart_call_parse_multipart_0 (parseStream mpSitesAsync β.steps)
        pure ())
      pure .ok
  else if β.get "ct" == "url" then do
    let _ ← inner asgi_req_form_call_body_0 (bodyA β)
    let _ ← std β "dec" "decodeCharset" asgi_req_form_decodeCharset_0
    let _ ← std β "qsl" "parseQsl" asgi_req_form_parseQsl_0
    pure .ok
  else do raiseAt asgi_req_form_raise_1; pure .ok

/-! ## Range handling and the file response -/

/-- `FileResponseMixin.parse_range`: the four `int(...)` sites sit in one comprehension; `int0` = `int(_[0])`,
`int1` = `int(_[1])` of a suffix spec, `int3` = the `int(_[1])` of the bound test, `int2` the one after it. -/
def parseRange (β : Beh) : M Unit := do
  let _ ← std β "unpack" "unpack2" resp_parse_range_unpack2_0
  if !β.flag "unit_bytes" then raiseAt resp_parse_range_raise_0
  let _ ← std β "int0" "int" resp_parse_range_int_0
  let _ ← std β "int1" "int" resp_parse_range_int_1
  let _ ← std β "int3" "int" resp_parse_range_int_3
  let _ ← std β "int2" "int" resp_parse_range_int_2
  if β.flag "no_ranges" then raiseAt resp_parse_range_raise_1
  if β.flag "unsat" then raiseAt resp_parse_range_raise_2
  if β.flag "inverted" then raiseAt resp_parse_range_raise_3
  pure ()

def parseRangeEntry (β : Beh) : M Val := do
  parseRange β
  pure .ok

/-- `FileResponse.__call__`: whole file unless Range is present (and If-Range, if present, matches); a rejected
Range header is answered by the response itself -/
def fileCallW (β : Beh) : M Val :=
  if !β.flag "has_range" || β.flag "ifrange_mismatch" then pure .resp
  else do
    let _ ← inner wsgi_file_call_call_parse_range_0 (parseRange β)
    pure .resp

def fileCallA (β : Beh) : M Val :=
  if !β.flag "has_range" || β.flag "ifrange_mismatch" then pure .resp
  else do
    let _ ← std β "range_dec" "decodeLatin1" asgi_file_call_decodeLatin1_0
    let _ ← inner asgi_file_call_call_parse_range_0 (parseRange β)
    pure .resp

/-! ## routing -/

/-- `Route.matches` of the route whose pattern matched (`route` = the convertor type of its placeholder);
`true` = matched with parameters -/
def routeMatches (β : Beh) : M Bool := do
  let conv : M Bool :=
    if β.get "route" == "int" then std β "conv_int" "int" routing_int_to_python_int_0
    else if β.get "route" == "decimal" then std β "conv_decimal" "decimal" routing_decimal_to_python_decimal_0
    else if β.get "route" == "uuid" then std β "conv_uuid" "uuid" routing_uuid_to_python_uuid_0
    else if β.get "route" == "date" then std β "conv_date" "dateCtor" routing_date_to_python_dateCtor_0
    else pure true
  let r ← inner routing_matches_call_to_python_0 conv
  pure r.isSome

def routerW (β : Beh) : M Val := do
  let _ ← inner wsgi_router_call_call_search_0 (inner routing_router_search_call_matches_0 (routeMatches β))
  pure .resp

def routerA (β : Beh) : M Val := do
  let _ ← inner asgi_router_call_call_search_0 (inner routing_router_search_call_matches_0 (routeMatches β))
  pure .resp

/-- Subpaths / Hosts: prefix tests and `fullmatch` of a compiled pattern -/
def mountW (_β : Beh) : M Val := pure .resp

def mountA (β : Beh) : M Val := do
  let _ ← std β "host_dec" "decodeLatin1" asgi_hosts_call_decodeLatin1_0
  pure .resp

/-! ## static files -/

/-- `check_path_is_file(path)` for the candidate whose `os.stat` outcome is fact `key`:
`true` = stat succeeded -/
def checkPath (β : Beh) (key : String) : M Bool :=
  std β key "osStat" static_check_path_is_file_osStat_0

/-- `BaseFiles.if_modified_since`: an empty header raises ValueError inside the `try` -/
def ifModifiedSince (β : Beh) : M Unit :=
  if !β.flag "has_ims" then raiseAt static_if_modified_since_raise_0
  else do
    let r ← std β "ims_parse" "parsedate" static_if_modified_since_parsedate_0
    if r then do
      let _ ← std β "ims_ts" "timestamp" static_if_modified_since_timestamp_0
      pure ()
    else pure ()

structure StaticSites where
  checkPath0 : Chain
  fileResponse : Chain
  ifModifiedSince : Chain
  notFound : RaiseSite

def filesSitesW : StaticSites :=
  { checkPath0 := wsgi_files_call_call_check_path_is_file_0, fileResponse := wsgi_files_call_call_file_response_0,
    ifModifiedSince := wsgi_files_file_response_call_if_modified_since_0, notFound := wsgi_files_call_raise_0 }

def filesSitesA : StaticSites :=
  { checkPath0 := asgi_files_call_call_check_path_is_file_0, fileResponse := asgi_files_call_call_file_response_0,
    ifModifiedSince := asgi_files_file_response_call_if_modified_since_0, notFound := asgi_files_call_raise_0 }

def pagesSitesW : StaticSites :=
  { checkPath0 := wsgi_pages_call_call_check_path_is_file_0, fileResponse := wsgi_pages_call_call_file_response_0,
    ifModifiedSince := wsgi_files_file_response_call_if_modified_since_0, notFound := wsgi_pages_call_raise_0 }

def pagesSitesA : StaticSites :=
  { checkPath0 := asgi_pages_call_call_check_path_is_file_0, fileResponse := asgi_pages_call_call_file_response_0,
    ifModifiedSince := asgi_files_file_response_call_if_modified_since_0, notFound := asgi_pages_call_raise_0 }

/-- `file_response(...)` followed by the call of the response -/
def fileResponse (s : StaticSites) (fileCall : Beh → M Val) (β : Beh) : M Val := do
  if !β.flag "has_inm" then do
    let _ ← inner s.ifModifiedSince (ifModifiedSince β)
    pure ()
  if β.flag "not_modified" then pure .resp else fileCall β

/-- `Files.__call__` (the 404 is raised when no `handle_404` is configured, as in the harness) -/
def filesCall (s : StaticSites) (fileCall : Beh → M Val) (β : Beh) : M Val := do
  let ok ← if β.flag "escapes" then pure false else do
    let r ← inner s.checkPath0 (checkPath β "st1")
    pure (r == some true && β.get "st1kind" == "file")
  if ok then do
    let r ← inner s.fileResponse (fileResponse s fileCall β)
    pure (r.getD .resp)
  else do
    raiseAt s.notFound
    pure .resp

def filesW (β : Beh) : M Val := filesCall filesSitesW fileCallW β
def filesA (β : Beh) : M Val := filesCall filesSitesA fileCallA β

/-- the redirect of Pages to `path + "/"`: URL(environ/scope), `URL.replace`, `RedirectResponse` → `iri_to_uri`
→ `quote` -/
def pagesRedirect (urlChain redirectChain iriChain : Chain) (mkUrl : Beh → M Unit) (β : Beh) : M Val := do
  let _ ← inner urlChain (mkUrl β)
  let _ ← inner redirectChain (inner iriChain (std β "quote" "quote" resp_iri_to_uri_quote_0))
  pure .resp

def pagesCall (s : StaticSites) (checkPath1 : Chain) (fileCall : Beh → M Val) (redirect : Beh → M Val)
    (β : Beh) : M Val := do
  -- first candidate
  let st1 ← if β.flag "escapes" then pure false else do
    let r ← inner s.checkPath0 (checkPath β "st1")
    pure (r == some true)
  -- the ".html" fallback
  let (found, kind) ← if !st1 && !β.flag "escapes" && β.flag "try_html" then do
      let r ← inner checkPath1 (checkPath β "st2")
      pure (r == some true, β.get "st2kind")
    else pure (st1, β.get "st1kind")
  if found && kind == "file" then do
    let r ← inner s.fileResponse (fileResponse s fileCall β)
    pure (r.getD .resp)
  else if found && kind == "dir" then redirect β
  else do
    raiseAt s.notFound
    pure .resp

def pagesW (β : Beh) : M Val :=
  pagesCall pagesSitesW wsgi_pages_call_call_check_path_is_file_1 fileCallW
    (pagesRedirect wsgi_pages_call_call_URL_0 wsgi_pages_call_call_RedirectResponse_0
      wsgi_redirect_init_call_iri_to_uri_0 urlFromEnviron) β

def pagesA (β : Beh) : M Val :=
  pagesCall pagesSitesA asgi_pages_call_call_check_path_is_file_1 fileCallA
    (pagesRedirect asgi_pages_call_call_URL_0 asgi_pages_call_call_RedirectResponse_0
      asgi_redirect_init_call_iri_to_uri_0 urlFromScope) β

/-! ## the table of entry points -/

/-- every public entry point of the property, per interface (`w` / `a`); `none`: unknown name -/
def entry (name iface : String) : Option (Beh → M Val) :=
  let w := iface == "w"
  match name with
  | "headers" | "accepted_types" | "accepts" | "content_type" => some pureAccessor
  | "content_length" => some contentLength
  | "cookies" => some cookies
  | "date" => some date
  | "referrer" => some referrer
  | "url" => some (if w then urlW else urlA)
  | "query_params" => some (if w then queryParamsW else queryParamsA)
  | "client" => some (if w then clientW else clientA)
  | "body" => some (if w then bodyW else bodyA)
  | "json" => some (if w then jsonW else jsonA)
  | "form" => some (if w then formW else formA)
  | "parse_range" => some parseRangeEntry
  | "file" => some (if w then fileCallW else fileCallA)
  | "router" => some (if w then routerW else routerA)
  | "subpaths" | "hosts" => some (if w then mountW else mountA)
  | "files" => some (if w then filesW else filesA)
  | "pages" => some (if w then pagesW else pagesA)
  | _ => Option.none

def entryNames : List String :=
  ["headers", "accepted_types", "accepts", "content_type", "content_length", "cookies", "date", "referrer", "url",
   "query_params", "client", "body", "json", "form", "parse_range", "file", "router", "subpaths", "hosts", "files",
   "pages"]

/-! ## line protocol -/

/-- the behaviour given by a finite table of facts (everything else: "", i.e. returned / false) -/
def behOf (pairs : List (String × String)) (steps : List MpStep := []) : Beh :=
  { get := fun k => (pairs.lookup k).getD "", steps := steps }

/-- facts token: `k=v;k=v;...` (`-` = none) -/
def parseFacts (tok : String) : Beh :=
  let pairs : List (String × String) :=
    if tok == "-" || tok == "" then [] else
      (tok.splitOn ";").filterMap fun kv =>
        match kv.splitOn "=" with
        | [k, v] => some (k, v)
        | _ => Option.none
  behOf pairs (parseSteps ((pairs.lookup "steps").getD ""))

/-- `c12 <entry> <iface> <facts> <request...>` : the request fields are for the implementation side only -/
def run (args : List String) : String :=
  match args with
  | name :: iface :: facts :: _ =>
    match entry name iface with
    | some prog => (outcome (prog (parseFacts facts))).render
    | Option.none => "bad-entry"
  | _ => "bad-args"

/-- `c12decl <kind>`: the declared raise-set, for the harness' direct sampling of the stdlib functions -/
def runDeclared (args : List String) : String :=
  match args with
  | kind :: _ =>
    let l := if kind == "errno" then declaredErrno else declared kind
    if l.isEmpty then "-" else ",".intercalate l
  | _ => "bad-args"

end Baize.Errors
