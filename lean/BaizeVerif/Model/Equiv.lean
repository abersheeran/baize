/-
The abstract-HTTP model of C04: one request, two presentations, two interpreters.

  AbsRequest                 what the client sent, independent of the gateway interface
  toEnviron / toScope        what a PEP 3333 server / an ASGI server hands to the application
                             (MY rendering of the two specifications — trusted, stated in the evidence)

  baize/wsgi/requests.py     HTTPConnection.headers/client/query_params/path_params, Request.method/
                             stream/body/json/form            -> `wsgiHeaders`, `wsgiClient`, … `wsgiView`
  baize/asgi/requests.py     the same members of the ASGI twin -> `asgiHeaders`, `asgiClient`, … `asgiView`
  baize/requests.py          MoreInfoFromHeaderMixin (ONE Python class, ONE Lean function per accessor)
                                                              -> `acceptedTypes`, `accepts`, `contentType`,
                                                                 `contentLength`, `cookies`, `date`, `referrer`
  baize/wsgi/responses.py    Response, SmallResponse (+3 subclasses), RedirectResponse, StreamResponse,
                             SendEventResponse, FileResponse   -> `emptyW`, `smallW`, `redirectW`, `streamW`,
                                                                 `sseW`, `fileW`
  baize/asgi/responses.py    the ASGI twins                    -> `emptyA`, … `fileA` (separately transcribed;
                                                                 header values additionally pass
                                                                 `.encode("latin-1")` of list_headers)
  baize/{wsgi,asgi}/staticfiles.py  Files / Pages `__call__`, `file_response`
                                                              -> `staticW`, `staticA` over C07's `Static.serve`,
                                                                 C14's `Conditional.ifNoneMatch/ifModifiedSince`,
                                                                 C02's `FileResponse.wsgiRespond/asgiEvents`
  baize/{wsgi,asgi}/routing.py      Subpaths / Hosts (C09's `Mount.dispatch`), Router (`routerSearch` over
                                    a parameter `rm` standing for `Route.matches`; C08 is not in this tree)
  baize/{wsgi,asgi}/shortcut.py     request_response           -> `Endpoint.view`

Text is a list of code points, bytes a list of naturals.  Where Python raises, the outcome is
`Outcome.http` (an HTTPException) or `Outcome.crash` (anything else).  Opaque stdlib results (rendered
body bytes of the small responses, `guess_type`, ETag / Last-Modified texts, `Route.matches`,
`re.fullmatch`, `parsedate_to_datetime`) enter as fields filled in by the harness, so both
interpreters see the same values.  Every key, codec, literal and default a twin uses comes from
`Gen.Equiv` (regenerated from the sources on every run), per interface.  Core Lean only.
-/
import BaizeVerif.Model.Wire
import BaizeVerif.Model.Headers
import BaizeVerif.Model.Url
import BaizeVerif.Model.Multipart
import BaizeVerif.Model.Mount
import BaizeVerif.Model.Static
import BaizeVerif.Model.Conditional
import BaizeVerif.Model.FileResponse
import BaizeVerif.Model.SSE
import BaizeVerif.Gen.Equiv
import BaizeVerif.Gen.Mount
import BaizeVerif.Gen.SSE
import BaizeVerif.Gen.Static

namespace Baize.Equiv

open Cookie (dictGet dictSet)

abbrev Str := List Nat
abbrev Bytes := List Nat
/-- path parameters: name ↦ canonical text of the converted value (opaque, from `Route.matches`) -/
abbrev Params := List (Str × Str)

/-- a string literal as code points -/
def s (x : String) : Str := x.toList.map Char.toNat

/-! ## 1. The abstract request and its two presentations -/

structure AbsRequest where
  method : Str
  scheme : Str
  serverHost : Str
  serverPort : Nat
  rootPath : Str                       -- text
  path : Str                           -- text
  query : Bytes
  headers : List (Str × Bytes)         -- field name as sent (any case), value as Latin-1 text = bytes;
                                       -- every field name at most once (folding repeats is the server's job)
  client : Option (Str × Option Nat)   -- peer address; the port may be unknown to the gateway
  body : List Bytes                    -- the body as it arrives, chunk by chunk

/-- a WSGI environ: the `str`-valued entries in dict order, `wsgi.input`, and the entry
`Router` adds -/
structure Environ where
  vars : List (Str × Str)
  input : List Bytes                   -- what successive `wsgi.input.read(n)` calls return before `b""`
  pathParams : Option Params := none

/-- an ASGI http scope plus the `http.request` messages `receive()` delivers -/
structure Scope where
  method : Str
  scheme : Str
  server : Str × Nat
  rootPath : Str
  path : Str
  queryString : Bytes
  headers : List (Bytes × Bytes)
  client : Option (Str × Option Nat)
  messages : List Bytes                -- bodies of the messages; `more_body` is false on the last only
  pathParams : Option Params := none

def Environ.get (e : Environ) (k : Str) : Option Str := dictGet e.vars k
def Environ.set (e : Environ) (k v : Str) : Environ := { e with vars := dictSet e.vars k v }

def kRequestMethod := s "REQUEST_METHOD"
def kScriptName := s "SCRIPT_NAME"
def kPathInfo := s "PATH_INFO"
def kQueryString := s "QUERY_STRING"
def kServerName := s "SERVER_NAME"
def kServerPort := s "SERVER_PORT"
def kUrlScheme := s "wsgi.url_scheme"
def kRemoteAddr := s "REMOTE_ADDR"
def kRemotePort := s "REMOTE_PORT"
def kContentType := s "CONTENT_TYPE"
def kContentLength := s "CONTENT_LENGTH"
def kHttp := s "HTTP_"

/-- `str.upper()` on ASCII (request field names are ASCII tokens; others are outside the model) -/
def upperAscii (c : Nat) : Nat := if 97 ≤ c ∧ c ≤ 122 then c - 32 else c

/-- the CGI variable a PEP 3333 server files a request header under -/
def cgiName (n : Str) : Str :=
  if Headers.lower n = s "content-type" then kContentType
  else if Headers.lower n = s "content-length" then kContentLength
  else kHttp ++ n.map fun c => if c = 45 then 95 else upperAscii c

def clientVars : Option (Str × Option Nat) → List (Str × Str)
  | none => []
  | some (h, none) => [(kRemoteAddr, h)]
  | some (h, some p) => [(kRemoteAddr, h), (kRemotePort, Url.renderNat p)]

/-- PEP 3333: path and script name are the UTF-8 bytes read as Latin-1, header values are
Latin-1 text, one variable per header field.  `none` when the path is not text (lone surrogates). -/
def toEnviron (r : AbsRequest) : Option Environ :=
  match Url.utf8Encode r.rootPath, Url.utf8Encode r.path with
  | some rp, some p =>
    some { vars := [(kRequestMethod, r.method), (kScriptName, rp), (kPathInfo, p), (kQueryString, r.query),
                    (kServerName, r.serverHost), (kServerPort, Url.renderNat r.serverPort), (kUrlScheme, r.scheme)]
                   ++ clientVars r.client ++ r.headers.map fun nv => (cgiName nv.1, nv.2),
           input := r.body.filter fun c => !c.isEmpty }   -- `read()` returns `b""` only at EOF
  | _, _ => none

/-- ASGI: text path, byte query string, lower-cased header names, `client` as given -/
def toScope (r : AbsRequest) : Scope :=
  { method := r.method, scheme := r.scheme, server := (r.serverHost, r.serverPort), rootPath := r.rootPath,
    path := r.path, queryString := r.query, headers := r.headers.map fun nv => (Headers.lower nv.1, nv.2),
    client := r.client, messages := r.body }

/-! ## 2. The request view -/

/-! ### `headers`, separately per interface -/

/-- wsgi `HTTPConnection.headers`: the generated key filter and name expression over
`environ.items()`, then `Headers(...)` -/
def wsgiHeaders (e : Environ) : Headers.Hdrs :=
  Headers.initHeaders (e.vars.filterMap fun kv =>
    if Gen.Equiv.wsgiHeaderKey kv.1 then some (Gen.Equiv.wsgiHeaderName Headers.lower kv.1, kv.2) else none)

/-- `b.decode(codec)`: Latin-1 maps a byte to the code point of the same number -/
def decodeBytes (codec : String) (b : Bytes) : Url.Res Str :=
  if codec == "latin-1" then .ok b
  else if codec == "utf-8" || codec == "utf8" then
    (match Url.utf8DecodeStrict b with | some t => .ok t | none => .crash "UnicodeDecodeError")
  else if codec == "ascii" then (if b.all (· < 128) then .ok b else .crash "UnicodeDecodeError")
  else .crash "LookupError"

def decodeHeaderList : List (Bytes × Bytes) → Url.Res (List (Str × Str))
  | [] => .ok []
  | (k, v) :: rest =>
    (decodeBytes Gen.Equiv.asgiHeaderKeyCodec k).bind fun k' =>
      (decodeBytes Gen.Equiv.asgiHeaderValueCodec v).bind fun v' =>
        (decodeHeaderList rest).bind fun t => .ok ((k', v') :: t)

/-- asgi `HTTPConnection.headers`: decode every pair, then `Headers(...)` -/
def asgiHeaders (sc : Scope) : Url.Res Headers.Hdrs :=
  (decodeHeaderList sc.headers).bind fun l => .ok (Headers.initHeaders l)

/-! ### MoreInfoFromHeaderMixin — one Python class, one Lean function per accessor -/

def mixinGet (spec : List (Str × Option Str)) (i : Nat) (h : Headers.Hdrs) : Option Str :=
  match spec[i]? with
  | some (name, dflt) => (Headers.getItem h name).or dflt
  | none => none

structure MediaType where
  main : Str
  sub : Str
  options : List (Str × Str)
  deriving DecidableEq, Repr

/-- `MediaType(raw)`: `parse_header`, then `full_type.partition("/")` -/
def mediaType (raw : Str) : MediaType :=
  let ph := Multipart.parseHeaderValue raw
  let pt := Url.partition 47 ph.1
  ⟨pt.1, pt.2.2, ph.2⟩

def MediaType.isAll (m : MediaType) : Bool := m.main == [42] && m.sub == [42]

/-- `MediaType.match(other)` -/
def MediaType.matches (m : MediaType) (other : Str) : Bool :=
  if m.isAll then true
  else
    let o := mediaType other
    m.main == o.main && (m.sub == [42] || m.sub == o.sub)

/-- `accepted_types` -/
def acceptedTypes (h : Headers.Hdrs) : List MediaType :=
  ((Cookie.pieces 44 ((mixinGet Gen.Equiv.mixin_accepted_types 0 h).getD [])).filter
    fun t => !(Cookie.strip t).isEmpty).map mediaType

/-- `accepts(media_type)` -/
def accepts (h : Headers.Hdrs) (mt : Str) : Bool := (acceptedTypes h).any (·.matches mt)

/-- `content_type`: `(type, options)` of `ContentType(...)` -/
def contentType (h : Headers.Hdrs) : Str × List (Str × Str) :=
  Multipart.parseHeaderValue ((mixinGet Gen.Equiv.mixin_content_type 0 h).getD [])

/-- the digits of a Python integer literal body `d(_?d)*`; `none` if it is not one -/
def intDigits : Bool → List Nat → Option (List Nat)
  | _, [] => some []
  | prev, c :: cs =>
    if Url.isDigit c then (intDigits true cs).map (c :: ·)
    else if c = 95 && prev && (match cs with | d :: _ => Url.isDigit d | [] => false) then intDigits false cs
    else none

/-- `int(text)` for Latin-1 text: surrounding white space, an optional sign, decimal digits
with single underscores between them (the only decimal digits of Latin-1 are 0-9); `none` = ValueError -/
def pyInt (t : Str) : Option Int :=
  let t := Cookie.strip t
  let sb : Bool × Str :=
    if t.head? = some 45 then (true, t.drop 1) else if t.head? = some 43 then (false, t.drop 1) else (false, t)
  match intDigits false sb.2 with
  | some ds =>
    if ds.isEmpty || ds.length > Url.maxIntDigits then none
    else some (if sb.1 then -(Url.digitsVal ds : Int) else (Url.digitsVal ds : Int))
  | none => none

/-- `content_length` -/
def contentLength (h : Headers.Hdrs) : Option Nat :=
  if (mixinGet Gen.Equiv.mixin_content_length 0 h) == some Gen.Equiv.chunkedLit then none
  else
    match mixinGet Gen.Equiv.mixin_content_length 1 h with
    | none => none
    | some t => (pyInt t).map Int.toNat          -- max(0, int(...))

/-- `cookies` (C16's reader) -/
def cookies (h : Headers.Hdrs) : List (Str × Str) :=
  Cookie.cookiesOf ((mixinGet Gen.Equiv.mixin_cookies 0 h).getD [])

/-- `date`: the header text handed to `parsedate_to_datetime` (opaque) -/
def date (h : Headers.Hdrs) : Option Str := mixinGet Gen.Equiv.mixin_date 0 h

/-- `referrer`: `URL(url=text)` -/
def referrer (h : Headers.Hdrs) : Option (Url.Res Url.Url) :=
  match mixinGet Gen.Equiv.mixin_referrer 0 h with
  | none => none
  | some t =>
    match Url.mkUrl t with
    | .crash kind =>
      -- `except ValueError: return None` around the construction, when the source has it
      if kind == "ValueError" && Gen.Equiv.referrerCatchesValueError then none else some (.crash kind)
    | r => some r

/-! ### `client`, `url`, `query_params`, `method`, `path_params` per interface -/

/-- wsgi `client` -/
def wsgiClient (e : Environ) : Url.Res (Option Str × Option Nat) :=
  match Gen.Equiv.clientKeysW with
  | [ka, kp] =>
    match e.get ka, e.get kp with
    | some a, some p =>
      if !a.isEmpty && !p.isEmpty then
        match pyInt p with
        | some n => .ok (some a, some n.toNat)
        | none => .crash "ValueError"
      else .ok (none, none)
    | _, _ => .ok (none, none)
  | _ => .crash "model: client keys"

/-- asgi `client`: `self.get("client") or (None, None)` -/
def asgiClient (sc : Scope) : Url.Res (Option Str × Option Nat) :=
  match sc.client with
  | some (h, p) => .ok (some h, p)
  | none => .ok (none, none)

def urlEnviron (e : Environ) : Url.Environ :=
  { scheme := (e.get kUrlScheme).getD [], serverName := (e.get kServerName).getD [],
    serverPort := (e.get kServerPort).getD [], scriptName := e.get kScriptName, pathInfo := e.get kPathInfo,
    queryString := e.get kQueryString, httpHost := e.get (s "HTTP_HOST") }

def urlScope (sc : Scope) : Url.Scope :=
  { scheme := some sc.scheme, server := some (sc.server.1, some sc.server.2), rootPath := some sc.rootPath,
    path := sc.path, queryString := some sc.queryString, headers := sc.headers }

def wsgiUrl (e : Environ) : Url.Res Url.Url := Url.wsgiRequestUrl (urlEnviron e)
def asgiUrl (sc : Scope) : Url.Res Url.Url := Url.asgiRequestUrl (urlScope sc)

/-- wsgi `query_params`: `QueryParams(environ["QUERY_STRING"])`, a `str` -/
def wsgiQuery (e : Environ) : Url.Res (List (Str × Str)) :=
  match e.get Gen.Equiv.queryKeyW with
  | some q => .ok (Url.parseQsl q)
  | none => .crash "KeyError"

/-- asgi `query_params`: `QueryParams(scope["query_string"])`, `bytes` decoded as Latin-1 -/
def asgiQuery (sc : Scope) : Url.Res (List (Str × Str)) :=
  if Gen.Equiv.queryKeyA = s "query_string" then .ok (Url.parseQsl sc.queryString) else .crash "KeyError"

def wsgiMethod (e : Environ) : Url.Res Str :=
  match e.get Gen.Equiv.methodKeyW with
  | some m => .ok m
  | none => .crash "KeyError"

def asgiMethod (sc : Scope) : Url.Res Str :=
  if Gen.Equiv.methodKeyA = s "method" then .ok sc.method else .crash "KeyError"

/-- wsgi `path_params`: `self.get("PATH_PARAMS", {})`; `Router` stores under its own key -/
def wsgiPathParams (e : Environ) : Params :=
  if Gen.Equiv.pathParamsKeyW = Gen.Equiv.routerParamsKeyW then e.pathParams.getD [] else []

def asgiPathParams (sc : Scope) : Params :=
  if Gen.Equiv.pathParamsKeyA = Gen.Equiv.routerParamsKeyA then sc.pathParams.getD [] else []

/-! ### body, json, form -/

/-- what wsgi `stream()` yields: the non-empty reads (an empty read ends the loop) -/
def wsgiStream (e : Environ) : List Bytes := e.input.takeWhile fun c => !c.isEmpty

/-- what asgi `stream()` yields: the non-empty message bodies, then one `b""` -/
def asgiStream (sc : Scope) : List Bytes := (sc.messages.filter fun c => !c.isEmpty) ++ [[]]

inductive JsonView where
  | unsupported                                  -- UnsupportedMediaType (415)
  | parse (charset : Str) (body : Bytes)          -- `json.loads(body.decode(charset))` (opaque)
  deriving DecidableEq, Repr

inductive FormView where
  | multipart (r : Multipart.Res)                -- C01's helper on the stream
  | urlencoded (charset : Str) (body : Bytes) (errStatus : Nat)
      -- `parse_qsl(body.decode(charset), keep_blank_values=True)`; a decoding error is answered with `errStatus`
      -- (0: it escapes)
  | unsupported
  deriving DecidableEq, Repr

def optCharset (opts : List (Str × Str)) (dflt : Str) : Str := (Multipart.lookup (s "charset") opts).getD dflt

def wsgiJson (ct : Str × List (Str × Str)) (body : Bytes) : JsonView :=
  if ct.1 = Gen.Equiv.jsonTypeW then .parse (optCharset ct.2 Gen.Equiv.jsonCharsetW) body else .unsupported

def asgiJson (ct : Str × List (Str × Str)) (body : Bytes) : JsonView :=
  if ct.1 = Gen.Equiv.jsonTypeA then .parse (optCharset ct.2 Gen.Equiv.jsonCharsetA) body else .unsupported

def wsgiForm (ctRaw : Str) (ct : Str × List (Str × Str)) (chunks : List Bytes) : FormView :=
  if ct.1 = Gen.Equiv.multipartTypeW then
    match Multipart.formAccessor false ctRaw chunks with
    | some r => .multipart r
    | none => .unsupported
  else if ct.1 = Gen.Equiv.urlencodedTypeW then .urlencoded (optCharset ct.2 Gen.Equiv.urlencodedCharsetW) chunks.flatten
    Gen.Equiv.formDecodeErrorStatusW
  else .unsupported

def asgiForm (ctRaw : Str) (ct : Str × List (Str × Str)) (messages : List Bytes) : FormView :=
  if ct.1 = Gen.Equiv.multipartTypeA then
    match Multipart.formAccessor true ctRaw messages with
    | some r => .multipart r
    | none => .unsupported
  else if ct.1 = Gen.Equiv.urlencodedTypeA then
    .urlencoded (optCharset ct.2 Gen.Equiv.urlencodedCharsetA) (messages.filter fun c => !c.isEmpty).flatten
      Gen.Equiv.formDecodeErrorStatusA
  else .unsupported

/-! ### the whole view -/

structure View where
  method : Url.Res Str
  url : Url.Res Url.Url
  headers : Url.Res Headers.Hdrs
  query : Url.Res (List (Str × Str))
  cookies : List (Str × Str)
  contentType : Str × List (Str × Str)
  contentLength : Option Nat
  accepted : List MediaType
  date : Option Str
  referrer : Option (Url.Res Url.Url)
  client : Url.Res (Option Str × Option Nat)
  body : Bytes
  json : JsonView
  form : FormView
  pathParams : Params
  deriving DecidableEq, Repr

/-- everything derived from the header mapping by the shared mixin and by the body accessors -/
def viewOf (method : Url.Res Str) (url : Url.Res Url.Url) (hdrs : Url.Res Headers.Hdrs)
    (query : Url.Res (List (Str × Str))) (client : Url.Res (Option Str × Option Nat)) (body : Bytes)
    (json : (Str × List (Str × Str)) → JsonView) (form : Str → (Str × List (Str × Str)) → FormView)
    (pp : Params) : View :=
  let h : Headers.Hdrs := match hdrs with | .ok h => h | _ => []
  { method := method, url := url, headers := hdrs, query := query, cookies := cookies h,
    contentType := contentType h, contentLength := contentLength h, accepted := acceptedTypes h,
    date := date h, referrer := referrer h, client := client, body := body, json := json (contentType h),
    form := form ((mixinGet Gen.Equiv.mixin_content_type 0 h).getD []) (contentType h), pathParams := pp }

def wsgiView (e : Environ) : View :=
  viewOf (wsgiMethod e) (wsgiUrl e) (.ok (wsgiHeaders e)) (wsgiQuery e) (wsgiClient e) (wsgiStream e).flatten
    (fun ct => wsgiJson ct (wsgiStream e).flatten) (fun raw ct => wsgiForm raw ct (wsgiStream e)) (wsgiPathParams e)

def asgiView (sc : Scope) : View :=
  viewOf (asgiMethod sc) (asgiUrl sc) (asgiHeaders sc) (asgiQuery sc) (asgiClient sc) (asgiStream sc).flatten
    (fun ct => asgiJson ct (asgiStream sc).flatten) (fun raw ct => asgiForm raw ct sc.messages) (asgiPathParams sc)

/-! ## 3. Responses as observations -/

/-- what a client can see of a response, or the exception that left the application -/
inductive Outcome where
  | response (sse : Bool) (status : Nat) (headers : List (Str × Str)) (body : Bytes)
      -- `sse` marks the event-stream response (the only place where `≈` forgives `connection`);
      -- header names lower-cased, values as Latin-1 text, body = all chunks / body events concatenated
  | http (status : Nat)
  | crash (kind : String)
  deriving DecidableEq, Repr

/-- constructor arguments every response class takes -/
structure Common where
  status : Nat
  headers : List (Str × Str)            -- the `headers=` mapping (a dict: keys as written, distinct)
  cookies : List Cookie.CookieRec := []
  deriving DecidableEq, Repr

inductive SmallKind where
  | plain | html | json
  deriving DecidableEq, Repr

/-- the file behind a `FileResponse(filepath, stat_result=…)` -/
structure FileSpec where
  stat : FileResponse.Stat
  contentType : Bytes                   -- `guess_type(...)[0] or "application/octet-stream"` (opaque)
  disposition : Option Str              -- the content-disposition value of `generate_common_headers`, if any (opaque)
  content : Bytes
  chunk : Nat := 262144
  deriving DecidableEq, Repr

inductive Recipe where
  | empty (c : Common)                                                              -- Response
  | small (k : SmallKind) (body : Bytes) (mediaType charset : Option Str) (c : Common)   -- PlainText / HTML / JSON;
      -- `body` = `render(content)` (opaque: `str.encode(charset)` / `json.dumps`)
  | redirect (url : Str) (c : Common)                                               -- RedirectResponse
  | stream (chunks : List Bytes) (contentType : Option Str) (c : Common)            -- StreamResponse, finite
  | sse (events : List SSE.Event) (charset : Option Str) (c : Common)               -- SendEventResponse, finite, no ping
  | file (f : FileSpec) (c : Common)                                                -- FileResponse (no `headers=`)
  deriving DecidableEq, Repr

def lowerNames (hs : List (Str × Str)) : List (Str × Str) := hs.map fun kv => (Headers.lower kv.1, kv.2)

/-- `x or default` for an optional string argument -/
def orElse (x : Option Str) (d : Str) : Str :=
  match x with
  | some v => if v.isEmpty then d else v
  | none => d

/-- wsgi: `list_headers(as_bytes=False)` goes to `start_response` as it is -/
def emitW (sse : Bool) (status : Nat) (h : Headers.Hdrs) (cookies : List Cookie.CookieRec) (body : Bytes) : Outcome :=
  .response sse status (lowerNames (Headers.listHeaders h cookies)) body

def encodable (codec : String) (t : Str) : Bool :=
  if codec == "latin-1" then t.all (· < 256) else if codec == "ascii" then t.all (· < 128) else true

/-- asgi: `list_headers(as_bytes=True)` encodes names and values (`listHeadersCodec`) and the
cookie lines (`cookieBytesCodec`); what does not fit raises UnicodeEncodeError -/
def emitA (sse : Bool) (status : Nat) (h : Headers.Hdrs) (cookies : List Cookie.CookieRec) (body : Bytes) : Outcome :=
  if h.all (fun kv => encodable Gen.Equiv.listHeadersCodec kv.1 && encodable Gen.Equiv.listHeadersCodec kv.2)
      && cookies.all (fun c => encodable Gen.Equiv.cookieBytesCodec (Cookie.line c)) then
    .response sse status (lowerNames (Headers.listHeaders h cookies)) body
  else .crash "UnicodeEncodeError"

def setOr (r : Except Headers.Err Headers.Hdrs) (k : Headers.Hdrs → Outcome) : Outcome :=
  match r with
  | .ok h => k h
  | .error _ => .crash "ValueError"

/-! ### baize/wsgi/responses.py -/

/-- `Response.__call__` -/
def emptyW (c : Common) : Outcome :=
  setOr (Headers.setItem (Headers.initHeaders c.headers) Gen.Headers.emptyBodyHeader_wsgi Gen.Headers.emptyBodyValue_wsgi)
    fun h => emitW false c.status h c.cookies []

def classMediaTypeW : SmallKind → Str
  | .plain => Gen.Equiv.plainMediaTypeW
  | .html => Gen.Equiv.htmlMediaTypeW
  | .json => Gen.Equiv.jsonMediaTypeW

/-- `SmallResponse.__init__` + `__call__` -/
def smallW (k : SmallKind) (body : Bytes) (mt cs : Option Str) (c : Common) : Outcome :=
  let mediaType := orElse mt (orElse (some (classMediaTypeW k)) Gen.Equiv.smallMediaTypeW)
  let charset := orElse cs Gen.Equiv.smallCharsetW
  let h0 := Headers.initHeaders c.headers
  setOr (if !body.isEmpty && (Headers.getItem h0 Gen.Equiv.smallLenTestW).isNone then
           Headers.setItem h0 Gen.Equiv.smallLenHeaderW (Url.renderNat body.length) else .ok h0) fun h1 =>
  setOr (if !mediaType.isEmpty && (Headers.getItem h1 Gen.Equiv.smallTypeTestW).isNone then
           Headers.setItem h1 Gen.Equiv.smallTypeHeaderW
             (if Gen.Equiv.smallTextPrefixW.isPrefixOf mediaType then mediaType ++ Gen.Equiv.smallCharsetJoinW ++ charset
              else mediaType)
         else .ok h1) fun h2 =>
  emitW false c.status h2 c.cookies body

/-- `RedirectResponse.__init__`, then `Response.__call__` -/
def redirectW (url : Str) (c : Common) : Outcome :=
  match Headers.iriToUri url with
  | none => .crash "UnicodeEncodeError"
  | some u =>
    setOr (Headers.setItem (Headers.initHeaders c.headers) Gen.Headers.redirectHeader_wsgi u) fun h1 =>
    setOr (Headers.setItem h1 Gen.Headers.emptyBodyHeader_wsgi Gen.Headers.emptyBodyValue_wsgi) fun h2 =>
    emitW false c.status h2 c.cookies []

/-- `StreamResponse.__init__`, `StreamingResponse.__call__`, `render_stream` -/
def streamW (chunks : List Bytes) (ct : Option Str) (c : Common) : Outcome :=
  setOr (Headers.setItem (Headers.initHeaders c.headers) Gen.Equiv.streamTypeHeaderW
          (match ct with | some t => t | none => Gen.Equiv.streamContentTypeW)) fun h =>
  emitW false c.status h c.cookies chunks.flatten

/-- `{**required_headers, **headers}` (a dict: keys are case-sensitive here) -/
def mergeDict (base extra : List (Str × Str)) : List (Str × Str) :=
  extra.foldl (fun d kv => dictSet d kv.1 kv.2) base

/-- `headers[K] += suffix + charset` on the merged dict (KeyError if K is missing) -/
def addCharset (d : List (Str × Str)) (suf : Str × Str) (charset : Str) : Option (List (Str × Str)) :=
  match dictGet d suf.1 with
  | some v => some (dictSet d suf.1 (v ++ suf.2 ++ charset))
  | none => none

/-- `text.encode(charset)` for the codecs the harness uses -/
def encodeText (charset : Str) (t : Str) : Url.Res Bytes :=
  if charset = s "utf-8" || charset = s "utf8" then
    (match Url.utf8Encode t with | some b => .ok b | none => .crash "UnicodeEncodeError")
  else if charset = s "latin-1" then (if t.all (· < 256) then .ok t else .crash "UnicodeEncodeError")
  else if charset = s "ascii" then (if t.all (· < 128) then .ok t else .crash "UnicodeEncodeError")
  else .crash "model: codec outside the model"

/-- `SendEventResponse.__init__` + `__call__` for a finite generator and no time-out, charset resolved -/
def sseCoreW (events : List SSE.Event) (charset : Str) (c : Common) : Outcome :=
  match addCharset (mergeDict Gen.SSE.wsgiRequiredHeaders c.headers) Gen.SSE.wsgiCharsetSuffix charset with
  | none => .crash "KeyError"
  | some d =>
    match encodeText charset (SSE.wire .wsgi (events.map SSE.Item.ev)) with
    | .ok body => emitW true c.status (Headers.initHeaders d) c.cookies body
    | .http st => .http st
    | .crash k => .crash k

def sseW (events : List SSE.Event) (cs : Option Str) (c : Common) : Outcome :=
  sseCoreW events (match cs with | some x => x | none => Gen.Equiv.sseCharsetW) c

/-- where `generate_common_headers` ends inside C02's header list -/
def commonLen : Nat := 3

/-- the header list of a file response: C02's list (common headers, then what the handler
sets) with the content-disposition of `generate_common_headers` and the headers appended
after construction (`set_response_headers`) in their place, then the cookie lines; the
error branch of `__call__` sends the exception's headers only -/
def fileHeaders (plan : FileResponse.Plan) (c02 : List (Bytes × Bytes)) (f : FileSpec) (extra : List (Str × Str))
    (cookies : List Cookie.CookieRec) : List (Str × Str) :=
  match plan with
  | .error _ _ _ => c02
  | _ =>
    c02.take commonLen ++ (match f.disposition with | some d => [(s "content-disposition", d)] | none => [])
      ++ extra ++ c02.drop commonLen ++ cookies.map fun ck => (Gen.Headers.setCookieName, Cookie.line ck)

def boundaryW : Bytes := FileResponse.fixedBoundary Gen.FileResponse.boundaryAlphabetWsgi Gen.FileResponse.boundaryKWsgi
def boundaryA : Bytes := FileResponse.fixedBoundary Gen.FileResponse.boundaryAlphabetAsgi Gen.FileResponse.boundaryKAsgi

/-- wsgi `FileResponse.__call__` (C02), `extra` = headers appended after construction -/
def fileW (f : FileSpec) (extra : List (Str × Str)) (cookies : List Cookie.CookieRec) (e : Environ) : Outcome :=
  match e.get kRequestMethod, Gen.Equiv.rangeKeysW with
  | some m, [kr, kir] =>
    let plan := FileResponse.wsgiPlan (e.get kr) (e.get kir) f.stat
    let r := FileResponse.wsgiRespond (m == Gen.Equiv.headMethodW) f.contentType boundaryW f.chunk f.stat f.content plan
    .response false r.status (lowerNames (fileHeaders plan r.headers f extra cookies)) r.body
  | _, _ => .crash "KeyError"

def wsgiRespond (r : Recipe) (e : Environ) : Outcome :=
  match r with
  | .empty c => emptyW c
  | .small k body mt cs c => smallW k body mt cs c
  | .redirect url c => redirectW url c
  | .stream chunks ct c => streamW chunks ct c
  | .sse events cs c => sseW events cs c
  | .file f c => fileW f [] c.cookies e

/-! ### baize/asgi/responses.py -/

def emptyA (c : Common) : Outcome :=
  setOr (Headers.setItem (Headers.initHeaders c.headers) Gen.Headers.emptyBodyHeader_asgi Gen.Headers.emptyBodyValue_asgi)
    fun h => emitA false c.status h c.cookies []

def classMediaTypeA : SmallKind → Str
  | .plain => Gen.Equiv.plainMediaTypeA
  | .html => Gen.Equiv.htmlMediaTypeA
  | .json => Gen.Equiv.jsonMediaTypeA

def smallA (k : SmallKind) (body : Bytes) (mt cs : Option Str) (c : Common) : Outcome :=
  let mediaType := orElse mt (orElse (some (classMediaTypeA k)) Gen.Equiv.smallMediaTypeA)
  let charset := orElse cs Gen.Equiv.smallCharsetA
  let h0 := Headers.initHeaders c.headers
  setOr (if !body.isEmpty && (Headers.getItem h0 Gen.Equiv.smallLenTestA).isNone then
           Headers.setItem h0 Gen.Equiv.smallLenHeaderA (Url.renderNat body.length) else .ok h0) fun h1 =>
  setOr (if !mediaType.isEmpty && (Headers.getItem h1 Gen.Equiv.smallTypeTestA).isNone then
           Headers.setItem h1 Gen.Equiv.smallTypeHeaderA
             (if Gen.Equiv.smallTextPrefixA.isPrefixOf mediaType then mediaType ++ Gen.Equiv.smallCharsetJoinA ++ charset
              else mediaType)
         else .ok h1) fun h2 =>
  emitA false c.status h2 c.cookies body

def redirectA (url : Str) (c : Common) : Outcome :=
  match Headers.iriToUri url with
  | none => .crash "UnicodeEncodeError"
  | some u =>
    setOr (Headers.setItem (Headers.initHeaders c.headers) Gen.Headers.redirectHeader_asgi u) fun h1 =>
    setOr (Headers.setItem h1 Gen.Headers.emptyBodyHeader_asgi Gen.Headers.emptyBodyValue_asgi) fun h2 =>
    emitA false c.status h2 c.cookies []

/-- `StreamingResponse.__call__`: one body event per chunk (`more_body=True`), then the empty final one -/
def streamA (chunks : List Bytes) (ct : Option Str) (c : Common) : Outcome :=
  setOr (Headers.setItem (Headers.initHeaders c.headers) Gen.Equiv.streamTypeHeaderA
          (match ct with | some t => t | none => Gen.Equiv.streamContentTypeA)) fun h =>
  emitA false c.status h c.cookies (chunks ++ [[]]).flatten

def sseCoreA (events : List SSE.Event) (charset : Str) (c : Common) : Outcome :=
  match addCharset (mergeDict Gen.SSE.asgiRequiredHeaders c.headers) Gen.SSE.asgiCharsetSuffix charset with
  | none => .crash "KeyError"
  | some d =>
    match encodeText charset (SSE.wire .asgi (events.map SSE.Item.ev)) with
    | .ok body => emitA true c.status (Headers.initHeaders d) c.cookies (body ++ [])     -- + the empty final event
    | .http st => .http st
    | .crash k => .crash k

def sseA (events : List SSE.Event) (cs : Option Str) (c : Common) : Outcome :=
  sseCoreA events (match cs with | some x => x | none => Gen.Equiv.sseCharsetA) c

/-- asgi `FileResponse.__call__` (C02): scan of the header list, events of the emulated sendfile -/
def fileA (f : FileSpec) (extra : List (Str × Str)) (cookies : List Cookie.CookieRec) (sc : Scope) : Outcome :=
  let plan := FileResponse.asgiPlan sc.headers f.stat
  match FileResponse.asgiEvents false (sc.method == Gen.Equiv.headMethodA) f.contentType boundaryA f.chunk f.stat f.content plan with
  | .start status hs :: evs =>
    let hl := fileHeaders plan hs f extra cookies
    if hl.all (fun kv => encodable Gen.Equiv.listHeadersCodec kv.1 && encodable Gen.Equiv.listHeadersCodec kv.2) then
      .response false status (lowerNames hl) (FileResponse.asgiBody f.content evs)
    else .crash "UnicodeEncodeError"
  | _ => .crash "model: no response start"

def asgiRespond (r : Recipe) (sc : Scope) : Outcome :=
  match r with
  | .empty c => emptyA c
  | .small k body mt cs c => smallA k body mt cs c
  | .redirect url c => redirectA url c
  | .stream chunks ct c => streamA chunks ct c
  | .sse events cs c => sseA events cs c
  | .file f c => fileA f [] c.cookies sc

/-! ## 4. Applications -/

/-- what `os.stat`, `guess_type` and `generate_etag` say about a served file (opaque) -/
structure FileMeta where
  spec : FileSpec
  ctime : Nat                 -- `int(st_ctime)`, the stamp `if_modified_since` is asked about (seconds)
  mtime : Nat                 -- `int(st_mtime)`

/-- a `Files` / `Pages` application and the world it serves from -/
structure StaticApp where
  pages : Bool
  dir : Str
  cwd : Str
  fs : Static.FS
  metaOf : Str → FileMeta                 -- by absolute file name
  parseDate : Str → Option Nat            -- `parsedate_to_datetime(text).timestamp()` as whole seconds; `none` = ValueError
  cacheability : Str := Gen.Equiv.cacheabilityDefault
  maxAge : Nat := Gen.Equiv.maxAgeDefault

/-- `response.headers.append(k, v)` for every pair, in order -/
def appendAll : Headers.Hdrs → List (Str × Str) → Except Headers.Err Headers.Hdrs
  | h, [] => .ok h
  | h, (k, v) :: rest =>
    match Headers.append h k v with
    | .ok h' => appendAll h' rest
    | .error e => .error e

/-- the (name, value) pairs `set_response_headers` appends -/
def cacheHeaders (a : StaticApp) : List (Str × Str) :=
  Gen.Equiv.cacheHeaders.map fun nv =>
    (nv.1, nv.2.flatMap fun p =>
      if p.1 then (if p.2 = s "cacheability" then a.cacheability else if p.2 = s "max_age" then Url.renderNat a.maxAge else [])
      else p.2)

/-- the 304-vs-file decision of `file_response` (C14); the stat field and the precedence rule
are the generated per-interface configuration -/
def notModified (i : Conditional.Iface) (a : StaticApp) (m : FileMeta) (inm ims : Str) : Bool :=
  let cfg := Conditional.genCfg i 1 (fun _ _ => m.spec.stat.etag)
  let f : Conditional.File := ⟨0, m.spec.stat.size, m.mtime, m.ctime⟩
  Conditional.notModified cfg f inm (if ims.isEmpty then none else a.parseDate ims)

/-- the last `.opened p` of C07's access log: the file `file_response` is built for -/
def openedPath (log : List Static.Access) : Str :=
  match log.getLast? with
  | some (.opened p) => p
  | _ => []

/-- `.encode("latin-1").decode("utf-8", "surrogateescape")`: every byte of an undecodable
subpart becomes U+DC00 + byte -/
def decodeSEF : Nat → List Nat → Str
  | 0, _ => []
  | _ + 1, [] => []
  | f + 1, b0 :: rest =>
    match Url.utf8Step b0 rest with
    | (some c, k) => c :: decodeSEF f (rest.drop (k - 1))
    | (none, k) => (b0 :: rest.take (k - 1)).map (56320 + ·) ++ decodeSEF f (rest.drop (k - 1))

/-- wsgi `Files.request_path` -/
def requestPathW (e : Environ) : Url.Res Str :=
  match Url.latin1Encode ((e.get kPathInfo).getD []) with
  | none => .crash "UnicodeEncodeError"
  | some bs =>
    match Url.utf8DecodeStrict bs with
    | some t => .ok t
    | none => .ok (decodeSEF bs.length bs)

/-- the `Location` of the directory redirect of `Pages`:
`RedirectResponse(url.replace(scheme="", path=url.path + "/"))` -/
def redirectUrl (u : Url.Res Url.Url) : Url.Res Str :=
  u.bind fun u0 => (Url.replace u0 { scheme := some [], path := some (u0.c.path ++ [47]) }).bind fun u1 => .ok u1.url

/-- wsgi `Files.__call__` / `Pages.__call__` + `file_response` -/
def staticW (a : StaticApp) (e : Environ) : Outcome :=
  match Gen.Equiv.condFilesKeysW, requestPathW e with
  | [kInm, kIms], .ok path =>
    let out := Static.serve ⟨a.dir, a.cwd, a.pages, true⟩ a.fs path
    match out.resp with
    | .file _ =>
      let m := a.metaOf (openedPath out.log)
      if notModified .wsgi a m ((e.get kInm).getD []) ((e.get kIms).getD []) then
        setOr (appendAll [] (if Gen.Equiv.setHeadersOn304W then cacheHeaders a else [])) fun h0 =>
        setOr (Headers.setItem h0 Gen.Headers.emptyBodyHeader_wsgi Gen.Headers.emptyBodyValue_wsgi) fun h =>
        emitW false Gen.Equiv.notModifiedStatusW h [] []
      else fileW m.spec (if Gen.Equiv.setHeadersOn200W then cacheHeaders a else []) [] e
    | .redirect _ | .redirectReplaced =>
      (match redirectUrl (Url.urlFromEnviron (urlEnviron e)) with
       | .ok loc => redirectW loc ⟨Gen.Equiv.redirectStatusW, [], []⟩
       | .http st => .http st
       | .crash k => .crash k)
    | .notFound => .http (if a.pages then Gen.Equiv.staticPagesNotFoundW else Gen.Equiv.staticFilesNotFoundW)
    | .crash k => .crash k
  | _, .crash k => .crash k
  | _, _ => .crash "model: static keys"

/-- the scan loops of the ASGI twins: the last header with that name wins -/
def scanLast (hs : List (Bytes × Bytes)) (k : Bytes) : Option Bytes :=
  hs.foldl (fun acc kv => if kv.1 = k then some kv.2 else acc) none

def staticA (a : StaticApp) (sc : Scope) : Outcome :=
  match Gen.Equiv.condFilesKeysA with
  | [kInm, kIms] =>
    let out := Static.serve ⟨a.dir, a.cwd, a.pages, false⟩ a.fs sc.path
    match out.resp with
    | .file _ =>
      let m := a.metaOf (openedPath out.log)
      if notModified .asgi a m ((scanLast sc.headers kInm).getD []) ((scanLast sc.headers kIms).getD []) then
        setOr (appendAll [] (if Gen.Equiv.setHeadersOn304A then cacheHeaders a else [])) fun h0 =>
        setOr (Headers.setItem h0 Gen.Headers.emptyBodyHeader_asgi Gen.Headers.emptyBodyValue_asgi) fun h =>
        emitA false Gen.Equiv.notModifiedStatusA h [] []
      else fileA m.spec (if Gen.Equiv.setHeadersOn200A then cacheHeaders a else []) [] sc
    | .redirect _ | .redirectReplaced =>
      (match redirectUrl (Url.urlFromScope (urlScope sc)) with
       | .ok loc => redirectA loc ⟨Gen.Equiv.redirectStatusA, [], []⟩
       | .http st => .http st
       | .crash k => .crash k)
    | .notFound => .http (if a.pages then Gen.Equiv.staticPagesNotFoundA else Gen.Equiv.staticFilesNotFoundA)
    | .crash k => .crash k
  | _ => .crash "model: static keys"

/-- what a mount table entry / a route can end in -/
inductive Endpoint where
  | respond (r : Recipe)            -- a response object used as the application
  | view (id : Nat)                 -- `request_response(view)`
  | static (a : StaticApp)

/-- outcome of `Route.matches` on a path (opaque: `re`, the convertors) -/
inductive RouteRes where
  | noMatch
  | params (p : Params)
  | raised (kind : String)          -- a convertor's `to_python` raised

inductive Leaf where
  | ep (e : Endpoint)
  | router (routes : List (Nat × Endpoint))     -- route index ↦ endpoint

/-- a composed application: C09's tree of `Subpaths` / `Hosts` over numbered leaves -/
structure Site where
  tree : Mount.App
  leaf : Nat → Leaf
  views : Nat → View → Recipe
  fm : Nat → Str → Bool             -- `re.fullmatch(pattern_i, host)`
  rm : Nat → Str → RouteRes         -- `Route_i.matches(path)`

inductive Routed where
  | none
  | raised (kind : String)
  | found (e : Endpoint) (p : Params)

/-- `BaseRouter.search`: the first route that matches -/
def routerSearch (rm : Nat → Str → RouteRes) : List (Nat × Endpoint) → Str → Routed
  | [], _ => .none
  | (i, e) :: rest, path =>
    match rm i path with
    | .noMatch => routerSearch rm rest path
    | .params p => .found e p
    | .raised k => .raised k

/-- the part of `environ` the mount tree reads -/
def mountReqW (e : Environ) : Mount.Req :=
  { root := e.get kScriptName, path := (e.get kPathInfo).getD [], host := e.get Gen.Equiv.hostKeyW }

/-- the two assignments of wsgi `Subpaths.__call__`, accumulated over the tree (when no
`Subpaths` was passed the request comes back as it went in: storing the values a key already
has changes nothing) -/
def Environ.rewritten (e : Environ) (after : Mount.Req) : Environ :=
  (match after.root with | some r => e.set kScriptName r | none => e).set kPathInfo after.path

def mountReqA (sc : Scope) : Mount.Req :=
  { root := some sc.rootPath, path := sc.path, host := scanLast sc.headers Gen.Equiv.hostKeyA }

def Scope.rewritten (sc : Scope) (after : Mount.Req) : Scope :=
  { sc with rootPath := after.rootD, path := after.path }

def endpointW (site : Site) (ep : Endpoint) (e : Environ) : Outcome :=
  match ep with
  | .respond r => wsgiRespond r e
  | .view i => wsgiRespond (site.views i (wsgiView e)) e
  | .static a => staticW a e

def endpointA (site : Site) (ep : Endpoint) (sc : Scope) : Outcome :=
  match ep with
  | .respond r => asgiRespond r sc
  | .view i => asgiRespond (site.views i (asgiView sc)) sc
  | .static a => staticA a sc

def leafW (site : Site) (l : Leaf) (e : Environ) : Outcome :=
  match l with
  | .ep ep => endpointW site ep e
  | .router routes =>
    match routerSearch site.rm routes ((e.get kPathInfo).getD []) with
    | .none => emptyW ⟨Gen.Equiv.routerStatusW, [], []⟩
    | .raised k => .crash k
    | .found ep p => endpointW site ep { e with pathParams := some p }

def leafA (site : Site) (l : Leaf) (sc : Scope) : Outcome :=
  match l with
  | .ep ep => endpointA site ep sc
  | .router routes =>
    match routerSearch site.rm routes sc.path with
    | .none => emptyA ⟨Gen.Equiv.routerStatusA, [], []⟩
    | .raised k => .crash k
    | .found ep p => endpointA site ep { sc with pathParams := some p }

/-- the whole WSGI application called with an environ -/
def wsgiRun (site : Site) (e : Environ) : Outcome :=
  match Mount.dispatch site.fm site.tree (mountReqW e) with
  | .notFound false _ => emptyW ⟨Gen.Mount.subpathsStatusW, [], []⟩
  | .notFound true _ => smallW .plain Gen.Mount.hostsBodyW none none ⟨Gen.Mount.hostsStatusW, [], []⟩
  | .hit i rq => leafW site (site.leaf i) (e.rewritten rq)

/-- the whole ASGI application called with a scope -/
def asgiRun (site : Site) (sc : Scope) : Outcome :=
  match Mount.dispatch site.fm site.tree (mountReqA sc) with
  | .notFound false _ => emptyA ⟨Gen.Mount.subpathsStatusA, [], []⟩
  | .notFound true _ => smallA .plain Gen.Mount.hostsBodyA none none ⟨Gen.Mount.hostsStatusA, [], []⟩
  | .hit i rq => leafA site (site.leaf i) (sc.rewritten rq)

def dropConnection (hs : List (Str × Str)) : List (Str × Str) := hs.filter fun kv => kv.1 != s "connection"

/-- `≈`: equal, except that the two event-stream responses may differ in their `connection` header -/
def Outcome.approx (w a : Outcome) : Prop :=
  match w, a with
  | .response true st h b, .response true st' h' b' => st = st' ∧ dropConnection h = dropConnection h' ∧ b = b'
  | w, a => w = a

/-! ## 5. Line protocol

`c04 <tree> <leaves> <fm bits> <rm table> <world> <method> <scheme> <server host> <server port> <root> <path>
     <query> <headers> <client> <body> <ims>`

* tree: C09's token (`0;<id>` leaf, `1;<n>;<prefix>;tree…` Subpaths, `2;<n>;<pattern index>;tree…` Hosts)
* leaves: `|`-separated, position = leaf id: `E<endpoint>` or `R<idx>@<endpoint>!<idx>@<endpoint>…`
  endpoint: `r;<recipe>` | `v;<view id>` | `s;<pages 0/1>;<directory cps>`
  recipe: `e;C` | `p;<body>;<mt|~>;<cs|~>;C` (also `h`, `j`) | `d;<url>;C` | `t;<chunks>;<ct|~>;C`
          | `z;<events>;<cs|~>;C` | `f;<world file index>;C`      with C = `<status>;<headers>;<cookies>`
  headers `k=v&k=v` (`N` none); cookies `name=value=expires|N=maxAge=domain=path=httponly=secure=samesite&…`
  events: `/`-separated, fields `+`-separated `e:<cps>` `i:<cps>` `r:<int>` `d:<cps>`, `-` the empty event
* fm bits: `re.fullmatch(pattern_i, host)` per pattern index; rm table: `idx:<path cps>:<N|X<kind>|P<k=v&…>>;…`
* world: `<base dir cps>;f:<rel>:<content>:<ct>:<disp|~>:<last-modified>:<etag>:<mtime>:<ctime>;d:<rel>;…`
* client `~` | `<host>:<port|~>`; body chunks `c/c/c` (`_` none); ims: seconds of If-Modified-Since or `~`

Answer: `W <outcome> | A <outcome>`. -/

open Wire

def optTok (t : String) : Option Str := if t == "~" then none else some (parseNatList t)

def pairsTok (t : String) : List (Str × Str) :=
  if t == "N" || t == "" then []
  else (t.splitOn "&").filterMap fun kv =>
    match kv.splitOn "=" with
    | [k, v] => some (parseNatList k, parseNatList v)
    | _ => none

def cookiesTok (t : String) : List Cookie.CookieRec :=
  if t == "N" || t == "" then []
  else (t.splitOn "&").filterMap fun c =>
    match c.splitOn "=" with
    | [n, v, ex, ma, dom, pa, ho, se, ss] =>
      some ⟨parseNatList n, parseNatList v, (if ex == "N" then none else ex.toInt?), ma.toInt?.getD (-1),
            parseNatList dom, parseNatList pa, ho == "1", se == "1", parseNatList ss⟩
    | _ => none

def commonTok : List String → Common
  | [st, hs, cs] => ⟨st.toNat?.getD 0, pairsTok hs, cookiesTok cs⟩
  | _ => ⟨0, [], []⟩

def chunksTok (t : String) : List Bytes := if t == "_" then [] else (t.splitOn "/").map parseNatList

def eventsTok (t : String) : List SSE.Event :=
  if t == "_" || t == "" then []
  else (t.splitOn "/").map fun e => if e == "-" then ⟨[], none⟩ else SSE.eventOfTokens (e.splitOn "+")

structure WorldFile where
  rel : Str
  spec : FileSpec
  mtime : Nat
  ctime : Nat

structure World where
  base : Str
  files : List WorldFile
  dirs : List Str

def parseWorld (tok : String) : World :=
  match tok.splitOn ";" with
  | [] => ⟨[], [], []⟩
  | b :: entries =>
    entries.foldl (fun w e =>
      match e.splitOn ":" with
      | ["f", p, c, ct, disp, lm, etag, mt, cti] =>
        let content := parseNatList c
        { w with files := w.files ++ [⟨parseNatList p,
            { stat := ⟨content.length, parseNatList lm, parseNatList etag⟩, contentType := parseNatList ct,
              disposition := optTok disp, content := content }, mt.toNat?.getD 0, cti.toNat?.getD 0⟩] }
      | ["d", p] => { w with dirs := w.dirs ++ [parseNatList p] }
      | _ => w) ⟨parseNatList b, [], []⟩

def World.tree (w : World) : Static.Tree :=
  { base := Static.segsOf w.base,
    files := w.files.map fun f => (Static.segsOf w.base ++ Static.segsOf f.rel, f.spec.content),
    dirs := w.dirs.map fun d => Static.segsOf w.base ++ Static.segsOf d }

def World.metaOf (w : World) (abs : Str) : FileMeta :=
  match w.files.find? fun f => Static.segsOf w.base ++ Static.segsOf f.rel == Static.segsOf abs with
  | some f => ⟨f.spec, f.ctime, f.mtime⟩
  | none => ⟨⟨⟨0, [], []⟩, [], none, [], 262144⟩, 0, 0⟩

def recipeTok (w : World) : List String → Recipe
  | "e" :: c => .empty (commonTok c)
  | "p" :: b :: mt :: cs :: c => .small .plain (parseNatList b) (optTok mt) (optTok cs) (commonTok c)
  | "h" :: b :: mt :: cs :: c => .small .html (parseNatList b) (optTok mt) (optTok cs) (commonTok c)
  | "P" :: b :: mt :: cs :: c => .small .plain (parseNatList b) (optTok mt) (optTok cs) (commonTok c)   -- `str` content
  | "H" :: b :: mt :: cs :: c => .small .html (parseNatList b) (optTok mt) (optTok cs) (commonTok c)
  | "j" :: b :: mt :: cs :: c => .small .json (parseNatList b) (optTok mt) (optTok cs) (commonTok c)
  | "d" :: u :: c => .redirect (parseNatList u) (commonTok c)
  | "t" :: ch :: ct :: c => .stream (chunksTok ch) (optTok ct) (commonTok c)
  | "z" :: ev :: cs :: c => .sse (eventsTok ev) (optTok cs) (commonTok c)
  | "f" :: i :: c =>
    .file (match w.files[i.toNat?.getD 0]? with | some f => f.spec | none => ⟨⟨0, [], []⟩, [], none, [], 262144⟩) (commonTok c)
  | _ => .empty ⟨500, [], []⟩

def endpointTok (w : World) (ims : Option Nat) (t : String) : Endpoint :=
  match t.splitOn ";" with
  | "r" :: r => .respond (recipeTok w r)
  | ["v", i] => .view (i.toNat?.getD 0)
  | ["s", pg, dir] =>
    .static { pages := pg == "1", dir := parseNatList dir, cwd := [47], fs := w.tree.fs, metaOf := w.metaOf,
              parseDate := fun _ => ims }
  | _ => .respond (.empty ⟨500, [], []⟩)

def leafTok (w : World) (ims : Option Nat) (t : String) : Leaf :=
  if t.startsWith "R" then
    .router (((t.drop 1).toString.splitOn "!").filterMap fun r =>
      match r.splitOn "@" with
      | [i, ep] => some (i.toNat?.getD 0, endpointTok w ims ep)
      | _ => none)
  else .ep (endpointTok w ims (t.drop 1).toString)

def rmTok (t : String) : Nat → Str → RouteRes :=
  let entries : List (Nat × Str × RouteRes) :=
    if t == "N" || t == "" then []
    else (t.splitOn ";").filterMap fun e =>
      match e.splitOn ":" with
      | [i, p, r] =>
        some (i.toNat?.getD 0, parseNatList p,
          if r == "N" then .noMatch
          else if r.startsWith "X" then .raised (r.drop 1).toString
          else .params (pairsTok (r.drop 1).toString))
      | _ => none
  fun i p =>
    match entries.find? fun e => e.1 == i && e.2.1 == p with
    | some e => e.2.2
    | none => .noMatch

/-! ### canonical text -/

def rl (l : List Nat) : String := renderNatList l

def rRes {α : Type} (f : α → String) : Url.Res α → String
  | .ok a => "ok:" ++ f a
  | .http st => s!"http:{st}"
  | .crash k => "crash:" ++ k

def rPairs (l : List (Str × Str)) : String :=
  if l.isEmpty then "-" else ";".intercalate (l.map fun kv => rl kv.1 ++ "=" ++ rl kv.2)

def sortStrings (l : List String) : List String := (l.toArray.qsort (· < ·)).toList

def rPairsSorted (l : List (Str × Str)) : String :=
  if l.isEmpty then "-" else ";".intercalate (sortStrings (l.map fun kv => rl kv.1 ++ "=" ++ rl kv.2))

def rOptStr : Option Str → String
  | none => "~"
  | some v => rl v

def probes : List Str := [s "application/json", s "text/html", s "text/plain", s "image/png"]

def knownCodec (cs : Str) : Option String :=
  if cs = s "latin-1" then some "latin-1" else if cs = s "utf-8" then some "utf-8"
  else if cs = s "utf8" then some "utf-8" else if cs = s "ascii" then some "ascii" else none

def rForm : FormView → String
  | .unsupported => "415"
  | .multipart r => "m:" ++ r.render.replace " " "_"
  | .urlencoded cs body err =>
    "u:" ++ rl cs ++ ":" ++
      (match knownCodec cs with
       | some codec => (match decodeBytes codec body with
                        | .ok t => rPairs (Url.parseQsl t)
                        | .crash k => if err = 0 then "crash_" ++ k else s!"http_{err}"
                        | .http st => s!"http_{st}")
       | none => "opaque")

/-- the lines of the echo view -/
def viewLines (v : View) : List String :=
  let hdrs : Headers.Hdrs := match v.headers with | .ok h => h | _ => []
  [ "m=" ++ rRes rl v.method,
    "u=" ++ rRes (fun u => rl u.url) v.url,
    "h=" ++ rRes rPairsSorted v.headers,
    "q=" ++ rRes rPairs v.query,
    "c=" ++ rPairs v.cookies,
    "ct=" ++ rl v.contentType.1 ++ "|" ++ rPairs v.contentType.2,
    "cl=" ++ (match v.contentLength with | some n => toString n | none => "~"),
    "at=" ++ (if v.accepted.isEmpty then "-" else
      "&".intercalate (v.accepted.map fun m => rl m.main ++ "/" ++ rl m.sub ++ "/" ++ rPairs m.options)),
    "ac=" ++ String.join (probes.map fun p => if accepts hdrs p then "1" else "0"),
    "d=" ++ rOptStr v.date,
    "r=" ++ (match v.referrer with | none => "~" | some r => rRes (fun u => rl u.url) r),
    "cli=" ++ rRes (fun c => rOptStr c.1 ++ "/" ++ (match c.2 with | some p => toString p | none => "~")) v.client,
    "b=" ++ rl v.body,
    "j=" ++ (match v.json with | .unsupported => "415" | .parse cs _ => "p:" ++ rl cs),
    "pp=" ++ rPairs v.pathParams ]

/-- the lines of the form view (the form is read from the stream, so it has a view of its own) -/
def formLines (v : View) : List String :=
  [ "ct=" ++ rl v.contentType.1 ++ "|" ++ rPairs v.contentType.2,
    "cl=" ++ (match v.contentLength with | some n => toString n | none => "~"),
    "f=" ++ rForm v.form ]

def textBytes (t : String) : Bytes := t.toList.map Char.toNat

/-- the views of the harness (the theorems are about every function `View → Recipe`) -/
def stdViews (i : Nat) (v : View) : Recipe :=
  let hdrs : Headers.Hdrs := match v.headers with | .ok h => h | _ => []
  match i with
  | 0 => .small .plain (textBytes ("\n".intercalate (viewLines v))) none none ⟨200, [], []⟩
  | 1 =>                                            -- content negotiation
    if accepts hdrs (s "application/json") then .small .json (textBytes "{\"ok\":true}") none none ⟨200, [], []⟩
    else if accepts hdrs (s "text/html") then .small .html (textBytes "<p>ok</p>") none none ⟨200, [], []⟩
    else .small .plain (textBytes "no") none none ⟨406, [], []⟩
  | 2 =>                                            -- redirect to the request's own URL
    match v.url with
    | .ok u => .redirect u.url ⟨307, [], []⟩
    | _ => .empty ⟨400, [], []⟩
  | 3 =>                                            -- cookies back as Set-Cookie, method as a header
    .empty ⟨204, [(s "X-Method", match v.method with | .ok m => m | _ => [])],
            (v.cookies.take 3).map Headers.defaultCookie⟩
  | 4 =>                                            -- the body back, typed as it came
    .small .plain v.body (if v.contentType.1.isEmpty then none else some v.contentType.1) none
      ⟨(if v.contentLength.isSome then 200 else 202), [], []⟩
  | 5 => .small .plain (textBytes ("\n".intercalate (formLines v))) none none ⟨200, [], []⟩
  | _ => .empty ⟨500, [], []⟩

def Outcome.render : Outcome → String
  | .response sse st hs body =>
    s!"r{if sse then 1 else 0} {st} " ++
      (if hs.isEmpty then "-" else ";".intercalate (sortStrings (hs.map fun kv => rl kv.1 ++ "=" ++ rl kv.2)))
      ++ " " ++ rl body
  | .http st => s!"http {st}"
  | .crash k => "crash " ++ k

def clientTok (t : String) : Option (Str × Option Nat) :=
  if t == "~" then none
  else match t.splitOn ":" with
    | [h, p] => some (parseNatList h, if p == "~" then none else p.toNat?)
    | _ => none

def run (args : List String) : String :=
  let toks := ((args[0]?).getD "").splitOn ";"
  match Mount.parseApp (toks.length + 1) toks with
  | some (tree, []) =>
    if !tree.wf then "config AssertionError" else
    let w := parseWorld ((args[4]?).getD "")
    let ims := (args[15]?).bind (·.toNat?)
    let leaves := (((args[1]?).getD "").splitOn "|").map (leafTok w ims)
    let bits := listArg args 2
    let site : Site :=
      { tree := tree, leaf := fun i => (leaves[i]?).getD (.ep (.respond (.empty ⟨500, [], []⟩))),
        views := stdViews, fm := fun i _ => bits.getD i 0 == 1, rm := rmTok ((args[3]?).getD "N") }
    let r : AbsRequest :=
      { method := listArg args 5, scheme := listArg args 6, serverHost := listArg args 7, serverPort := natArg args 8,
        rootPath := listArg args 9, path := listArg args 10, query := listArg args 11,
        headers := pairsTok ((args[12]?).getD "N"), client := clientTok ((args[13]?).getD "~"),
        body := chunksTok ((args[14]?).getD "_") }
    let wOut := match toEnviron r with
      | some e => (wsgiRun site e).render
      | none => "unpresentable"
    s!"W {wOut} | A {(asgiRun site (toScope r)).render}"
  | _ => "bad-tree"

end Baize.Equiv
