/-
Model of baize/multipart.py (MultipartDecoder), baize/multipart_helper.py
(parse_stream / parse_async_stream) and baize/utils.py (parse_header).

Three layers, as in the code:

* framing    — `Dec`, `receive`, `nextEvent`: the byte-level state machine with
               its three regex searches written as explicit scanners
               (`delimSearch`, `blankLineSearch`) and the hold-back index
               (`holdBack` = `MultipartDecoder.last_newline`);
* headers    — `parseHeaderLines`, `parseHeaderValue` (= `_parse_headers`,
               `parse_header`), `safeDecode`;
* helper     — `parseStream`: the event loop shared by the sync and async
               helpers, with the two limit counters.

Bytes and code points are `Nat`.  Core Lean only.
-/
import BaizeVerif.Model.Wire
import BaizeVerif.Gen.Multipart

namespace Baize.Multipart

abbrev Bytes := List Nat

def CR : Nat := 13
def LF : Nat := 10
def DASH : Nat := 45

/-- `[^\S\n\r]` on bytes: horizontal whitespace (space, TAB, VT, FF) -/
def isBlank (c : Nat) : Bool := c = 32 || c = 9 || c = 11 || c = 12

def isLB (c : Nat) : Bool := c = 13 || c = 10

/-- `"--" + boundary` -/
def marker (b : Bytes) : Bytes := DASH :: DASH :: b

/-! ### searches -/

/-- `buf.find(pat)` : index of the leftmost occurrence -/
def findSub (pat : Bytes) : Bytes → Option Nat
  | [] => if pat.isEmpty then some 0 else none
  | c :: cs =>
    if pat.isPrefixOf (c :: cs) then some 0
    else match findSub pat cs with
      | some i => some (i + 1)
      | none => none

/-- length of the line break `(?:\r\n|\n|\r)` at the head of the text (0: none).
The alternatives are tried in this order; where the pattern continues after the
line break with `--`, the shorter alternative `\r` of a `\r\n` pair cannot
succeed, so the first applicable alternative is the only one. -/
def lbLen : Bytes → Nat
  | 13 :: 10 :: _ => 2
  | 10 :: _ => 1
  | 13 :: _ => 1
  | _ => 0

/-- what may follow `--boundary`: `(--[^\S\n\r]*LB?|[^\S\n\r]*LB)`;
returns (consumed length, is the closing delimiter) -/
def afterMarker (l : Bytes) : Option (Nat × Bool) :=
  match l with
  | 45 :: 45 :: r =>
    let bl := (r.takeWhile isBlank).length
    some (2 + bl + lbLen (r.drop bl), true)
  | _ =>
    let bl := (l.takeWhile isBlank).length
    let k := lbLen (l.drop bl)
    if k = 0 then none else some (bl + k, false)

/-- the delimiter pattern anchored at the head of `l`;
`optLB = true` is `preamble_re` (leading line break optional) -/
def matchDelimAt (optLB : Bool) (mk : Bytes) (l : Bytes) : Option (Nat × Bool) :=
  let k := lbLen l
  if k = 0 && !optLB then none
  else if mk.isPrefixOf (l.drop k) then
    match afterMarker (l.drop (k + mk.length)) with
    | some (n, fin) => some (k + mk.length + n, fin)
    | none => none
  else none

/-- `re.search`: leftmost match; (start, stop, final) -/
def delimSearch (optLB : Bool) (mk : Bytes) : Bytes → Option (Nat × Nat × Bool)
  | [] => none
  | c :: cs =>
    match matchDelimAt optLB mk (c :: cs) with
    | some (n, fin) => some (0, n, fin)
    | none =>
      match delimSearch optLB mk cs with
      | some (s, e, fin) => some (s + 1, e + 1, fin)
      | none => none

/-- `(?:\r\n\r\n|\r\r|\n\n)` anchored at the head: length of the match (0: none).
The three alternatives start with different byte pairs, so at most one applies. -/
def blankAt : Bytes → Nat
  | a :: b :: rest =>
    if a = 13 ∧ b = 13 then 2
    else if a = 10 ∧ b = 10 then 2
    else if a = 13 ∧ b = 10 then
      match rest with
      | c :: d :: _ => if c = 13 ∧ d = 10 then 4 else 0
      | _ => 0
    else 0
  | _ => 0

/-- BLANK_LINE_RE.search : (start, stop) -/
def blankLineSearch : Bytes → Option (Nat × Nat)
  | [] => none
  | c :: cs =>
    if blankAt (c :: cs) > 0 then some (0, blankAt (c :: cs))
    else match blankLineSearch cs with
      | some (s, e) => some (s + 1, e + 1)
      | none => none

/-- index of the last CR or LF -/
def lastLB : Bytes → Option Nat
  | [] => none
  | c :: cs =>
    match lastLB cs with
    | some i => some (i + 1)
    | none => if isLB c then some 0 else none

/-- can `rest` (the text after the last line break) still become `--boundary`
followed by `--`, padding or a line break? -/
def maybeDelim (mk rest : Bytes) : Bool :=
  if rest.length ≤ mk.length then rest.isPrefixOf mk
  else if mk.isPrefixOf rest then
    (rest.drop mk.length = [45] || (rest.drop mk.length).all isBlank)
  else false

/-- start of the line break that ends at index `i` (a CRLF pair is one line break) -/
def lbStart (buf : Bytes) (i : Nat) : Nat :=
  if 0 < i && buf[i - 1]? = some 13 && buf[i]? = some 10 then i - 1 else i

/-- `MultipartDecoder.last_newline()` (as repaired): the index from which the
buffer may still be the beginning of a delimiter line. -/
def holdBack (mk : Bytes) (buf : Bytes) : Nat :=
  match lastLB buf with
  | none => buf.length
  | some i => if maybeDelim mk (buf.drop (i + 1)) then lbStart buf i else buf.length

/-! ### UTF-8 (strict, as CPython) and `safe_decode` -/

def isCont (c : Nat) : Bool := 128 ≤ c && c ≤ 191

/-- value and validity of one UTF-8 sequence given its lead byte and up to three
following bytes: (code point, number of continuation bytes) -/
def utf8Seq (a : Nat) (rest : Bytes) : Option (Nat × Nat) :=
  if a < 128 then some (a, 0)
  else if 194 ≤ a && a ≤ 223 then
    match rest with
    | b :: _ => if isCont b then some ((a - 192) * 64 + (b - 128), 1) else none
    | _ => none
  else if 224 ≤ a && a ≤ 239 then
    match rest with
    | b :: c :: _ =>
      let okB := if a = 224 then 160 ≤ b && b ≤ 191 else if a = 237 then 128 ≤ b && b ≤ 159 else isCont b
      if okB && isCont c then some ((a - 224) * 4096 + (b - 128) * 64 + (c - 128), 2) else none
    | _ => none
  else if 240 ≤ a && a ≤ 244 then
    match rest with
    | b :: c :: d :: _ =>
      let okB := if a = 240 then 144 ≤ b && b ≤ 191 else if a = 244 then 128 ≤ b && b ≤ 143 else isCont b
      if okB && isCont c && isCont d then
        some ((a - 240) * 262144 + (b - 128) * 4096 + (c - 128) * 64 + (d - 128), 3)
      else none
    | _ => none
  else none

/-- strict UTF-8 decoding; `none` = UnicodeDecodeError.  `skip` counts the
continuation bytes of the current sequence that are still to be passed over. -/
def decodeUtf8Go : Nat → Bytes → Option (List Nat)
  | _, [] => some []
  | skip + 1, _ :: rest => decodeUtf8Go skip rest
  | 0, a :: rest =>
    match utf8Seq a rest with
    | some (cp, k) => (decodeUtf8Go k rest).map (cp :: ·)
    | none => none

def decodeUtf8 (b : Bytes) : Option (List Nat) := decodeUtf8Go 0 b

/-- charsets the model knows: utf-8, or anything that behaves like latin-1
(latin-1 itself, and every unknown charset name: LookupError → latin-1 fallback) -/
inductive Charset where
  | utf8
  | latin1
  deriving DecidableEq, Repr

/-- `safe_decode(src, charset)` -/
def safeDecode (cs : Charset) (b : Bytes) : List Nat :=
  match cs with
  | .latin1 => b
  | .utf8 => match decodeUtf8 b with
    | some t => t
    | none => b

/-! ### header layer -/

/-- bytes.strip(): ASCII whitespace -/
def isAsciiSpace (c : Nat) : Bool := c = 32 || (9 ≤ c && c ≤ 13)

/-- str.strip(): `str.isspace` -/
def isPySpace (c : Nat) : Bool :=
  (9 ≤ c && c ≤ 13) || (28 ≤ c && c ≤ 32) || c = 133 || c = 160 || c = 5760 ||
  (8192 ≤ c && c ≤ 8202) || c = 8232 || c = 8233 || c = 8239 || c = 8287 || c = 12288

def stripBy (p : Nat → Bool) (l : List Nat) : List Nat :=
  ((l.dropWhile p).reverse.dropWhile p).reverse

/-- HEADER_CONTINUATION_RE.sub(b" ", data): `LB[ \t]` → one space.  `skip` counts
the bytes of the current match that are still to be dropped. -/
def subContGo : Nat → Bytes → Bytes
  | _, [] => []
  | skip + 1, _ :: cs => subContGo skip cs
  | 0, c :: cs =>
    let k := lbLen (c :: cs)
    if k > 0 && (match (c :: cs).drop k with | d :: _ => d = 32 || d = 9 | [] => false) then
      32 :: subContGo k cs
    else c :: subContGo 0 cs

def subContinuation (b : Bytes) : Bytes := subContGo 0 b

/-- bytes.splitlines(): split on `\r\n`, `\n`, `\r`; no trailing empty line -/
def splitLinesGo : Bytes → Bytes → List Bytes
  | [], cur => if cur.isEmpty then [] else [cur.reverse]
  | 13 :: 10 :: r, cur => cur.reverse :: splitLinesGo r []
  | 13 :: r, cur => cur.reverse :: splitLinesGo r []
  | 10 :: r, cur => cur.reverse :: splitLinesGo r []
  | c :: r, cur => splitLinesGo r (c :: cur)

def splitLines (b : Bytes) : List Bytes := splitLinesGo b []

/-- `s.partition(":")` : `none` when there is no colon -/
def splitColon : List Nat → Option (List Nat × List Nat)
  | [] => none
  | c :: cs =>
    if c = 58 then some ([], cs)
    else match splitColon cs with
      | some (a, b) => some (c :: a, b)
      | none => none

/-- `str.lower()` on Latin-1 text (A-Z, and U+00C0-U+00DE except the multiplication
sign); header and parameter names are ASCII/Latin-1 in every generated input,
`str.lower()` on other scripts is outside the model -/
def lowerAscii (l : List Nat) : List Nat :=
  l.map fun c => if (65 ≤ c && c ≤ 90) || (192 ≤ c && c ≤ 222 && c != 215) then c + 32 else c

/-- `_parse_headers` up to (not including) `Headers(...)`: `none` = a line without colon -/
def parseHeaderLines (cs : Charset) (raw : Bytes) : Option (List (List Nat × List Nat)) :=
  let lines := (splitLines (subContinuation raw)).map (stripBy isAsciiSpace)
  let lines := lines.filter (fun l => !l.isEmpty)
  lines.mapM fun l =>
    match splitColon (safeDecode cs l) with
    | some (n, v) => some (stripBy isPySpace n, stripBy isPySpace v)
    | none => none

/-- `Headers(list)`: lower-cased keys, duplicates folded with ", " (insertion order kept) -/
def foldHeaders : List (List Nat × List Nat) → List (List Nat × List Nat) → List (List Nat × List Nat)
  | [], acc => acc
  | (k, v) :: rest, acc =>
    let k' := lowerAscii k
    match acc.find? (·.1 = k') with
    | some _ => foldHeaders rest (acc.map fun (a, b) => if a = k' then (a, b ++ [44, 32] ++ v) else (a, b))
    | none => foldHeaders rest (acc ++ [(k', v)])

def lookup (k : List Nat) (l : List (List Nat × List Nat)) : Option (List Nat) :=
  (l.find? (·.1 = k)).map (·.2)

/-- `s.find(";", from)` -/
def findFrom (c : Nat) (s : List Nat) (start : Nat) : Option Nat :=
  match findSub [c] (s.drop start) with
  | some i => some (start + i)
  | none => none

def countQuote (s : List Nat) (stop : Nat) : Nat := ((s.take stop).filter (· = 34)).length

/-- `s.count('\\"', 0, end)` (non-overlapping occurrences of backslash-quote) -/
def countEscQuote : List Nat → Nat
  | 92 :: 34 :: r => 1 + countEscQuote r
  | _ :: r => countEscQuote r
  | [] => 0

/-- the inner `while` of `_parseparam`: extend `end` while the quotes before it are unbalanced -/
def paramEnd (s : List Nat) (fuel : Nat) (e : Option Nat) : Option Nat :=
  match fuel, e with
  | 0, e => e
  | _, none => none
  | fuel + 1, some i =>
    if i > 0 && (countQuote s i - countEscQuote (s.take i)) % 2 = 1 then
      paramEnd s fuel (findFrom 59 s (i + 1))
    else some i

/-- `_parseparam(s)` : the list of stripped fields -/
def parseParam (fuel : Nat) (s : List Nat) : List (List Nat) :=
  match fuel, s with
  | 0, _ => []
  | fuel + 1, 59 :: s' =>
    let e := match paramEnd s' (s'.length + 1) (findFrom 59 s' 0) with
      | some i => i
      | none => s'.length
    stripBy isPySpace (s'.take e) :: parseParam fuel (s'.drop e)
  | _, _ => []

/-- `s.replace(pat, rep)` for a non-empty pattern; `skip` counts the bytes of the
current occurrence that are still to be dropped -/
def replaceGo (pat rep : List Nat) : Nat → List Nat → List Nat
  | _, [] => []
  | skip + 1, _ :: cs => replaceGo pat rep skip cs
  | 0, c :: cs =>
    if pat.isPrefixOf (c :: cs) && !pat.isEmpty then rep ++ replaceGo pat rep (pat.length - 1) cs
    else c :: replaceGo pat rep 0 cs

def replaceAll (pat rep : List Nat) (l : List Nat) : List Nat := replaceGo pat rep 0 l

/-- one `name=value` field of `parse_header` -/
def parseOption (p : List Nat) : Option (List Nat × List Nat) :=
  match findSub [61] p with
  | none => none
  | some i =>
    let name := lowerAscii (stripBy isPySpace (p.take i))
    let value := stripBy isPySpace (p.drop (i + 1))
    let value :=
      if value.length ≥ 2 && value.head? = some 34 && value.getLast? = some 34 then
        let inner := (value.drop 1).take (value.length - 2)
        replaceAll [92, 34] [34] (replaceAll [92, 92] [92] inner)
      else value
    some (name, value)

/-- dict assignment `pdict[name] = value` (last wins, first position kept) -/
def dictSet (d : List (List Nat × List Nat)) (k v : List Nat) : List (List Nat × List Nat) :=
  if d.any (·.1 = k) then d.map fun (a, b) => if a = k then (a, v) else (a, b) else d ++ [(k, v)]

/-- `parse_header(line)` : (key, options) -/
def parseHeaderValue (line : List Nat) : List Nat × List (List Nat × List Nat) :=
  match parseParam (line.length + 2) (59 :: line) with
  | [] => ([], [])
  | key :: ps => (key, (ps.filterMap parseOption).foldl (fun d (kv : List Nat × List Nat) => dictSet d kv.1 kv.2) [])

/-- "content-disposition" -/
def cdName : List Nat := Gen.Multipart.contentDisposition
def nameKey : List Nat := [110, 97, 109, 101]
def filenameKey : List Nat := [102, 105, 108, 101, 110, 97, 109, 101]

/-! ### events and the decoder -/

inductive St where
  | preamble | part | data | epilogue | complete
  deriving DecidableEq, Repr

inductive Ev where
  | needData
  | preamble (d : Bytes)
  | field (name : Option (List Nat)) (headers : List (List Nat × List Nat))
  | file (name : Option (List Nat)) (filename : List Nat) (headers : List (List Nat × List Nat))
  | data (d : Bytes) (more : Bool)
  | epilogue (d : Bytes)
  | malformed          -- MalformedMultipart (HTTP 400)
  deriving DecidableEq, Repr

structure Dec where
  buf : Bytes := []
  st : St := .preamble
  complete : Bool := false
  deriving Repr

/-- `receive_data` -/
def receive (d : Dec) : Option Bytes → Dec
  | none => { d with complete := true }
  | some c => { d with buf := d.buf ++ c }

/-- the header part of the PART branch: raw header block → event -/
def headerEvent (cs : Charset) (raw : Bytes) : Ev :=
  match parseHeaderLines cs raw with
  | none => .malformed
  | some hl =>
    let headers := foldHeaders hl []
    match lookup cdName headers with
    | none => .malformed
    | some cd =>
      let extra := (parseHeaderValue cd).2
      match lookup filenameKey extra with
      | some fname => .file (lookup nameKey extra) fname headers
      | none => .field (lookup nameKey extra) headers

/-- PREAMBLE branch of `next_event()` -/
def evPreamble (b : Bytes) (d : Dec) : Dec × Ev :=
  match delimSearch true (marker b) d.buf with
  | some (s, e, fin) =>
    ({ d with st := if fin then .epilogue else .part, buf := d.buf.drop e }, .preamble (d.buf.take s))
  | none => (d, .needData)

/-- PART branch -/
def evPart (cs : Charset) (d : Dec) : Dec × Ev :=
  match blankLineSearch d.buf with
  | some (s, e) =>
    let ev := headerEvent cs (d.buf.take s)
    if ev = .malformed then ({ d with buf := d.buf.drop e }, .malformed)
    else ({ d with st := .data, buf := d.buf.drop e }, ev)
  | none => (d, .needData)

/-- the delimiter search of the DATA branch (guarded by the cheap `find`) -/
def dataSearch (b : Bytes) (buf : Bytes) : Option (Nat × Nat × Bool) :=
  if (findSub (marker b) buf).isNone then none else delimSearch false (marker b) buf

/-- DATA branch -/
def evData (b : Bytes) (d : Dec) : Dec × Ev :=
  match dataSearch b d.buf with
  | some (s, e, fin) =>
    ({ d with st := if fin then .epilogue else .part, buf := d.buf.drop e }, .data (d.buf.take s) false)
  | none =>
    if holdBack (marker b) d.buf = 0 then (d, .needData)
    else ({ d with buf := d.buf.drop (holdBack (marker b) d.buf) },
          .data (d.buf.take (holdBack (marker b) d.buf)) true)

/-- `next_event()` before the final "complete but nothing to report" test -/
def rawEvent (b : Bytes) (cs : Charset) (d : Dec) : Dec × Ev :=
  match d.st with
  | .preamble => evPreamble b d
  | .part => evPart cs d
  | .data => evData b d
  | .epilogue =>
    if d.complete then ({ d with st := .complete, buf := [] }, .epilogue d.buf) else (d, .needData)
  | .complete => (d, .needData)

/-- `next_event()` -/
def nextEvent (b : Bytes) (cs : Charset) (d : Dec) : Dec × Ev :=
  if (rawEvent b cs d).1.complete && (rawEvent b cs d).2 = .needData then ((rawEvent b cs d).1, .malformed)
  else rawEvent b cs d

/-! ### the stream helper -/

inductive Item where
  | field (name : Option (List Nat)) (text : List Nat)
  | file (name : Option (List Nat)) (filename : List Nat)
      (headers : List (List Nat × List Nat)) (content : Bytes)
  deriving DecidableEq, Repr

inductive Res where
  | ok (items : List Item)
  | tooLarge           -- RequestEntityTooLarge, 413
  | malformed          -- MalformedMultipart, 400
  deriving DecidableEq, Repr

structure Cfg where
  maxParts : Nat := Gen.Multipart.maxFormPartsDefault
  maxMem : Option Nat := none

structure HS where
  dec : Dec := {}
  fieldName : Option (List Nat) := some []
  data : Bytes := []                         -- the `data` bytearray
  file : Option (List Nat × List (List Nat × List Nat) × Bytes) := none   -- filename, headers, written
  parts : Nat := 0
  mem : Nat := 0
  items : List Item := []
  /-- observables for C15: the largest buffer seen after a drained chunk -/
  maxHeld : Nat := 0
  /-- the same, counting only the moments at which the decoder is in the DATA state -/
  maxHeldData : Nat := 0

/-- handle one event; `continue` goes on with the inner loop, `break` leaves it, `raise` ends the parse -/
inductive Step where
  | continue (s : HS)
  | break (s : HS)
  | raise (r : Res)

def onEvent (cfg : Cfg) (cs : Charset) (s : HS) (ev : Ev) : Step :=
  match ev with
  | .needData => .break s
  | .epilogue _ => .break s
  | .preamble _ => .continue s
  | .malformed => .raise .malformed
  | .field name _ => .continue { s with fieldName := name }
  | .file name fname headers => .continue { s with fieldName := name, file := some (fname, headers, []) }
  | .data d more =>
    match s.file with
    | none =>
      let s := { s with data := s.data ++ d, mem := s.mem + d.length }
      if (match cfg.maxMem with | some m => decide (s.mem > m) | none => false) then .raise .tooLarge
      else if more then .continue s
      else
        let s := { s with items := s.items ++ [Item.field s.fieldName (safeDecode cs s.data)], data := [],
                          parts := s.parts + 1 }
        if s.parts > cfg.maxParts then .raise .tooLarge else .continue s
    | some (fname, headers, written) =>
      let written := written ++ d
      if more then .continue { s with file := some (fname, headers, written) }
      else
        let s := { s with items := s.items ++ [Item.file s.fieldName fname headers written], file := none,
                          parts := s.parts + 1 }
        if s.parts > cfg.maxParts then .raise .tooLarge else .continue s

/-- the inner `while True` loop; every event that is not NEED_DATA consumes at
least one byte of the buffer, so `fuel = buffer length + 1` iterations suffice -/
def drain (b : Bytes) (cfg : Cfg) (cs : Charset) : Nat → HS → Step
  | 0, s => .break s
  | fuel + 1, s =>
    let (d', ev) := nextEvent b cs s.dec
    match onEvent cfg cs { s with dec := d' } ev with
    | .continue s' => drain b cfg cs fuel s'
    | r => r

/-- one iteration of `for chunk in stream` -/
def feed (b : Bytes) (cfg : Cfg) (cs : Charset) (s : HS) (chunk : Bytes) : Step :=
  let s := { s with dec := receive s.dec (some chunk) }
  match drain b cfg cs (s.dec.buf.length + 2) s with
  | .continue s' => .continue s'
  | .break s' => .continue { s' with maxHeld := max s'.maxHeld s'.dec.buf.length,
                                     maxHeldData := if s'.dec.st = .data then max s'.maxHeldData s'.dec.buf.length
                                                    else s'.maxHeldData }
  | .raise r => .raise r

def feedAll (b : Bytes) (cfg : Cfg) (cs : Charset) : HS → List Bytes → Res × Nat × Nat
  | s, [] => (.ok s.items, s.maxHeld, s.maxHeldData)
  | s, c :: rest =>
    match feed b cfg cs s c with
    | .continue s' => feedAll b cfg cs s' rest
    | .break s' => feedAll b cfg cs s' rest
    | .raise r => (r, s.maxHeld, s.maxHeldData)

/-- `parse_stream(stream, boundary, charset, …)` (identically `parse_async_stream`) -/
def parseStream (b : Bytes) (cfg : Cfg) (cs : Charset) (chunks : List Bytes) : Res :=
  (feedAll b cfg cs {} chunks).1

/-! ### event-level driver (for the correspondence of the decoder itself) -/

def drainEvents (b : Bytes) (cs : Charset) : Nat → Dec → List Ev → Dec × List Ev
  | 0, d, acc => (d, acc)
  | fuel + 1, d, acc =>
    let (d', ev) := nextEvent b cs d
    match ev with
    | .needData => (d', acc)
    | .malformed => (d', acc ++ [ev])
    | .epilogue _ => (d', acc ++ [ev])
    | _ => drainEvents b cs fuel d' (acc ++ [ev])

/-- feed every chunk (draining after each), then `receive_data(None)` and drain -/
def eventTrace (b : Bytes) (cs : Charset) (chunks : List Bytes) : List (List Ev) × Nat :=
  let rec go (d : Dec) (cs' : List Bytes) (acc : List (List Ev)) (held : Nat) : List (List Ev) × Nat :=
    match cs' with
    | [] =>
      let d := receive d none
      let (_, evs) := drainEvents b cs (d.buf.length + 3) d []
      (acc ++ [evs], held)
    | c :: rest =>
      let d := receive d (some c)
      let (d', evs) := drainEvents b cs (d.buf.length + 3) d []
      if evs.getLast? = some .malformed then (acc ++ [evs], held)
      else go d' rest (acc ++ [evs]) (max held d'.buf.length)
  go {} chunks [] 0

/-! ### line protocol -/

open Wire in
def renderOptName : Option (List Nat) → String
  | none => "None"
  | some n => renderNatList n

open Wire in
def renderHeaders (h : List (List Nat × List Nat)) : String :=
  if h.isEmpty then "-" else ";".intercalate (h.map fun (k, v) => renderNatList k ++ "=" ++ renderNatList v)

open Wire in
def Ev.render : Ev → String
  | .needData => "N"
  | .preamble d => "P:" ++ renderNatList d
  | .field n h => "F:" ++ renderOptName n ++ ":" ++ renderHeaders h
  | .file n f h => "X:" ++ renderOptName n ++ ":" ++ renderNatList f ++ ":" ++ renderHeaders h
  | .data d m => "D:" ++ renderNatList d ++ ":" ++ (if m then "1" else "0")
  | .epilogue d => "E:" ++ renderNatList d
  | .malformed => "http400"

open Wire in
def Item.render : Item → String
  | .field n t => "f:" ++ renderOptName n ++ ":" ++ renderNatList t
  | .file n f h c => "x:" ++ renderOptName n ++ ":" ++ renderNatList f ++ ":" ++ renderHeaders h ++ ":" ++ renderNatList c

def Res.render : Res → String
  | .ok items => "ok " ++ (if items.isEmpty then "-" else "|".intercalate (items.map Item.render))
  | .tooLarge => "http 413"
  | .malformed => "http 400"

def parseCharset (s : String) : Charset := if s == "utf8" then .utf8 else .latin1

/-- chunks on the wire: `c1/c2/c3` with each chunk a code list, `_` for the empty list of chunks -/
def parseChunks (s : String) : List Bytes :=
  if s == "_" then [] else (s.splitOn "/").map Wire.parseNatList

/-- `mp_events <boundary> <charset> <chunks>` -/
def runEvents (args : List String) : String :=
  let b := Wire.listArg args 0
  let cs := parseCharset ((args[1]?).getD "utf8")
  let chunks := parseChunks ((args[2]?).getD "_")
  let (tr, held) := eventTrace b cs chunks
  " ".intercalate (tr.map fun evs => if evs.isEmpty then "." else "~".intercalate (evs.map Ev.render))
    ++ " held=" ++ toString held

/-- `mp_stream <boundary> <charset> <maxParts> <maxMem|none> <chunks>` -/
def runStream (args : List String) : String :=
  let b := Wire.listArg args 0
  let cs := parseCharset ((args[1]?).getD "utf8")
  let cfg : Cfg := { maxParts := Wire.natArg args 2, maxMem := ((args[3]?).bind (·.toNat?)) }
  let chunks := parseChunks ((args[4]?).getD "_")
  let (r, held, dheld) := feedAll b cfg cs {} chunks
  r.render ++ " held=" ++ toString held ++ " dheld=" ++ toString dheld

/-- codec-name normalisation as far as the harness uses it: utf8 / utf-8 / UTF-8 …;
everything else (latin-1, unknown names) behaves like latin-1 in `safe_decode` -/
def normCharset (cs : List Nat) : Charset :=
  if (lowerAscii cs).filter (fun c => !(c = 45 || c = 95)) = [117, 116, 102, 56] then .utf8 else .latin1

/-- "multipart/form-data" -/
def multipartType : List Nat :=
  [109, 117, 108, 116, 105, 112, 97, 114, 116, 47, 102, 111, 114, 109, 45, 100, 97, 116, 97]

/-- `Request.form` for a multipart content type; `asgi = true`: the ASGI stream
drops empty message bodies and ends with one empty chunk -/
def formAccessor (asgi : Bool) (contentType : List Nat) (chunks : List Bytes) : Option Res :=
  let (ty, opts) := parseHeaderValue contentType
  if ty ≠ multipartType then none
  else
    let cs := match lookup [99, 104, 97, 114, 115, 101, 116] opts with
      | some c => normCharset c
      | none => .utf8
    match lookup [98, 111, 117, 110, 100, 97, 114, 121] opts with
    | none => some .malformed
    | some b =>
      let chunks := if asgi then chunks.filter (fun c => !c.isEmpty) ++ [[]] else chunks
      some (parseStream b {} cs chunks)

/-- `mp_wsgi_form <content-type> <chunks>` / `mp_asgi_form …` -/
def runForm (asgi : Bool) (args : List String) : String :=
  match formAccessor asgi (Wire.listArg args 0) (parseChunks ((args[1]?).getD "_")) with
  | some (.ok items) => "ok " ++ (if items.isEmpty then "-" else "|".intercalate (items.map Item.render))
  | some r => r.render
  | none => "not-multipart"

def runWsgiForm (args : List String) : String := runForm false args
def runAsgiForm (args : List String) : String := runForm true args

/-- `mp_header <cps>` : parse_header -/
def runHeader (args : List String) : String :=
  let (k, opts) := parseHeaderValue (Wire.listArg args 0)
  Wire.renderNatList k ++ " " ++ renderHeaders opts

end Baize.Multipart
