/-
Model of the static-file apps of baize
(`baize/staticfiles.py`: `BaseFiles.normalize_dir_path`, `ensure_absolute_path`,
`check_path_is_file`; `baize/{wsgi,asgi}/staticfiles.py`: `Files.__call__`,
`Pages.__call__`, `Pages.ensure_absolute_path`), as repaired by the C07 fixes.

Strings are lists of code points.  The POSIX `os.path` functions the code
calls are modelled at character level, statement by statement:

  s.split("/")                 -> `split`
  os.path.join(a, *p)          -> `join2` (one step of the loop), `joinAll`
  os.path.normpath             -> `normpath` (`normStep` = one iteration of its loop)
  os.path.abspath              -> `abspath`
  os.path.relpath              -> `relpath` (`commonLen` = len(commonprefix([..])))
  str.startswith / endswith    -> `List.isPrefixOf` / `List.isSuffixOf`

The file system is an abstract symlink-free function `FS` from a list of
segment names (an absolute location) to a `Node`; `osStat` is `os.stat` on it.
`serve` returns the response AND the list of paths handed to `os.stat` / `open`.

Every literal of the baize code (`"index.html"`, `".html"`, the escape tests on
the relpath, the trailing-slash test, the caught exception classes) comes from
`BaizeVerif.Gen.Static`, regenerated from the source on every run.
-/
import BaizeVerif.Model.Wire
import BaizeVerif.Gen.Static

namespace Baize.Static

abbrev Str := List Nat

/-! ### `str` and `os.path` (POSIX) -/

/-- `"."` (os.curdir) -/
def dot : Str := [46]
/-- `".."` (os.pardir) -/
def pardir : Str := [46, 46]

/-- put `c` in front of the first piece -/
def consHead (c : Nat) : List Str → List Str
  | [] => [[c]]
  | h :: t => (c :: h) :: t

/-- `s.split("/")` -/
def split : Str → List Str
  | [] => [[]]
  | c :: cs => if c = 47 then [] :: split cs else consHead c (split cs)

/-- `"/".join(l)` -/
def joinSlash : List Str → Str
  | [] => []
  | [a] => a
  | a :: b :: t => a ++ 47 :: joinSlash (b :: t)

/-- one iteration of the loop of `os.path.join`: `path` so far, next component `b` -/
def join2 (path b : Str) : Str :=
  if b.head? = some 47 then b
  else if path = [] ∨ path.getLast? = some 47 then path ++ b
  else path ++ 47 :: b

/-- `os.path.join(*l)`; Python raises TypeError for no argument, `split` never returns `[]` -/
def joinAll : List Str → Str
  | [] => []
  | a :: p => p.foldl join2 a

/-- POSIX keeps exactly two leading slashes, collapses three or more into one -/
def initialSlashes : Str → Nat
  | 47 :: 47 :: 47 :: _ => 1
  | 47 :: 47 :: _ => 2
  | 47 :: _ => 1
  | _ => 0

/-- one iteration of the loop of `normpath`; `st` is `new_comps`, last element first -/
def normStep (isAbs : Bool) (st : List Str) (comp : Str) : List Str :=
  if comp = [] ∨ comp = dot then st
  else if comp ≠ pardir ∨ (isAbs = false ∧ st = []) ∨ st.head? = some pardir then comp :: st
  else st.tail

/-- `os.path.normpath` -/
def normpath (p : Str) : Str :=
  if p = [] then dot
  else
    let k := initialSlashes p
    let st := (split p).foldl (normStep (k != 0)) []
    let out := List.replicate k 47 ++ joinSlash st.reverse
    if out = [] then dot else out

/-- `os.path.abspath` with the current directory as a parameter -/
def abspath (cwd p : Str) : Str :=
  if p.head? = some 47 then normpath p else normpath (join2 cwd p)

/-- the non-empty pieces: `[x for x in s.split("/") if x]` -/
def segsOf (s : Str) : List Str := (split s).filter (fun x => !x.isEmpty)

/-- `len(commonprefix([a, b]))` for two lists -/
def commonLen : List Str → List Str → Nat
  | a :: as, b :: bs => if a = b then commonLen as bs + 1 else 0
  | _, _ => 0

/-- `os.path.relpath(path, start)`; `none` = ValueError("no path specified") -/
def relpath (cwd path start : Str) : Option Str :=
  if path = [] then none
  else
    let sl := segsOf (abspath cwd start)
    let pl := segsOf (abspath cwd path)
    let i := commonLen sl pl
    let rel := List.replicate (sl.length - i) pardir ++ pl.drop i
    some (if rel = [] then dot else joinAll rel)

/-! ### the file system -/

inductive Node where
  | file (content : List Nat)
  | dir
  | missing
  | notDir        -- a proper prefix of the location is a regular file
  deriving Repr, DecidableEq

/-- symlink-free file system: absolute location (segment names) ↦ node -/
abbrev FS := List Str → Node

/-- what `os.stat` gives: a regular file, a directory, or an exception (class, errno name) -/
inductive StatRes where
  | reg (content : List Nat)
  | isDir
  | raised (cls : String) (errno : String)
  deriving Repr, DecidableEq

/-- a surrogate that `os.fsencode` (utf-8, surrogateescape) can not encode -/
def badSurrogate (c : Nat) : Bool := 0xD800 ≤ c && c ≤ 0xDFFF && !(0xDC80 ≤ c && c ≤ 0xDCFF)

/-- number of bytes of the file-system encoding of one code point -/
def cpBytes (c : Nat) : Nat :=
  if c < 0x80 then 1 else if 0xDC80 ≤ c ∧ c ≤ 0xDCFF then 1
  else if c < 0x800 then 2 else if c < 0x10000 then 3 else 4

def byteLen (s : Str) : Nat := (s.map cpBytes).sum

/-- Linux: PATH_MAX (including the terminating NUL) and NAME_MAX -/
def pathMax : Nat := 4096
def nameMax : Nat := 255

/-- `os.stat(p)`.  Order as in CPython/Linux: encode the name (UnicodeEncodeError),
refuse an embedded NUL (ValueError), refuse an over-long path, then look the
location up.  The location is the list of non-empty pieces of `p` (the paths
the apps hand over are normalised — proved in C07 — so `.`/`..` never occur).
A trailing slash demands a directory.  Which of ENOENT / ENAMETOOLONG the kernel
reports for an over-long name below a missing parent is not distinguished. -/
def osStat (fs : FS) (p : Str) : StatRes :=
  if p.any badSurrogate then .raised "UnicodeEncodeError" ""
  else if p.any (· == 0) then .raised "ValueError" ""
  else if pathMax ≤ byteLen p then .raised "OSError" "ENAMETOOLONG"
  else
    match fs (segsOf p) with
    | .file c => if p.getLast? = some 47 then .raised "NotADirectoryError" "ENOTDIR" else .reg c
    | .dir => .isDir
    | .notDir => .raised "NotADirectoryError" "ENOTDIR"
    | .missing =>
      if (segsOf p).any (fun s => decide (nameMax < byteLen s)) then .raised "OSError" "ENAMETOOLONG"
      else .raised "FileNotFoundError" "ENOENT"

/-- `issubclass(cls, base)` for the exception classes `os.stat` raises here -/
def isSubclass (cls base : String) : Bool :=
  cls == base || base == "Exception" || base == "BaseException" ||
  (base == "OSError" && (cls == "FileNotFoundError" || cls == "NotADirectoryError")) ||
  (base == "ValueError" && cls == "UnicodeEncodeError")

/-- is the exception swallowed by the handlers of `check_path_is_file`? -/
def caught (cls errno : String) : Bool :=
  Gen.Static.caughtStat.any (isSubclass cls) ||
  (isSubclass cls "OSError" && Gen.Static.caughtErrno.any (· == errno))

/-! ### the apps -/

structure Cfg where
  dir : Str       -- self.directory
  cwd : Str       -- os.getcwd(); only looked at for non-absolute paths
  pages : Bool    -- Pages (true) or Files (false)
  wsgi : Bool     -- interface; only decides what becomes of an unencodable redirect URL (`redirectTo`)

inductive Access where
  | stat (p : Str)
  | opened (p : Str)
  deriving Repr, DecidableEq

def Access.path : Access → Str
  | .stat p => p
  | .opened p => p

inductive Resp where
  | file (content : List Nat)      -- 200 with the content of the opened file
  | redirect (target : Str)        -- RedirectResponse to (the URL with) this path
  | redirectReplaced               -- WSGI, path with non-UTF-8 bytes: a redirect whose Location carries
                                   -- U+FFFD in their place (URL(environ=…) decodes with errors="replace")
  | notFound                       -- HTTPException(404)
  | crash (cls : String)           -- any other exception leaves the app
  deriving Repr, DecidableEq

structure Out where
  resp : Resp
  log : List Access
  deriving Repr, DecidableEq

/-- the test on the request path that puts the trailing slash back -/
def keepSlash (path : Str) : Bool :=
  if Gen.Static.slashTestIsSuffix then Gen.Static.slashLit.isSuffixOf path
  else path == Gen.Static.slashLit

/-- the tests on the relpath that make `ensure_absolute_path` return None -/
def escapes (rel : Str) : Bool :=
  Gen.Static.escEq.any (· == rel) || Gen.Static.escPrefix.any (·.isPrefixOf rel)

/-- `BaseFiles.ensure_absolute_path`; `Except.error` = an exception class -/
def baseEnsure (cfg : Cfg) (path : Str) : Except String (Option Str) :=
  let abs0 := abspath cfg.cwd (join2 cfg.dir (joinAll (split path)))
  let abs := if keepSlash path then abs0 ++ [47] else abs0
  match relpath cfg.cwd abs cfg.dir with
  | none => .error "ValueError"
  | some rel => if escapes rel then .ok none else .ok (some abs)

/-- `ensure_absolute_path` of the app: `Pages` appends the index name after a slash -/
def ensureAbs (cfg : Cfg) (path : Str) : Except String (Option Str) :=
  match baseEnsure cfg path with
  | .ok (some abs) =>
    if cfg.pages && Gen.Static.pagesSlashLit.isSuffixOf abs then .ok (some (abs ++ Gen.Static.indexName))
    else .ok (some abs)
  | r => r

/-- result of `check_path_is_file`: `(None, False)`, `(st, True)`, `(st, False)` or an exception -/
inductive Chk where
  | absent
  | reg (content : List Nat)
  | other             -- exists, not a regular file: in this file system a directory
  | raised (cls : String)
  deriving Repr, DecidableEq

def checkPathIsFile (fs : FS) : Option Str → Chk × List Access
  | none => (.absent, [])
  | some p =>
    match osStat fs p with
    | .reg c => (.reg c, [.stat p])
    | .isDir => (.other, [.stat p])
    | .raised cls errno => (if caught cls errno then .absent else .raised cls, [.stat p])

/-- `Files.__call__` -/
def serveFiles (cfg : Cfg) (fs : FS) (path : Str) : Out :=
  match ensureAbs cfg path with
  | .error cls => ⟨.crash cls, []⟩
  | .ok fp =>
    match checkPathIsFile fs fp, fp with
    | (.reg c, log), some p => ⟨.file c, log ++ [.opened p]⟩
    | (.raised cls, log), _ => ⟨.crash cls, log⟩
    | (_, log), _ => ⟨.notFound, log⟩

/-- a surrogate code point: such text has no UTF-8 encoding -/
def isSurrogate (c : Nat) : Bool := 0xD800 ≤ c && c ≤ 0xDFFF

/-- `RedirectResponse(URL(...).replace(scheme="", path=url.path + "/"))`.  A path with a
surrogate (bytes that are not UTF-8) can not be turned into a URL faithfully: WSGI
re-decodes PATH_INFO in `URL(environ=…)` with errors="replace" (the Location then
names a different URL), ASGI fails in `iri_to_uri` (`quote`). -/
def redirectTo (wsgi : Bool) (path : Str) : Resp :=
  if path.any isSurrogate then (if wsgi then .redirectReplaced else .crash "UnicodeEncodeError")
  else .redirect (path ++ [47])

/-- second half of `Pages.__call__`, after the optional fallback -/
def pagesFinish (wsgi : Bool) (path : Str) (fp : Str) (r : Chk) (log : List Access) : Out :=
  match r with
  | .reg c => ⟨.file c, log ++ [.opened fp]⟩
  | .other => ⟨redirectTo wsgi path, log⟩
  | .absent => ⟨.notFound, log⟩
  | .raised cls => ⟨.crash cls, log⟩

/-- `Pages.__call__` -/
def servePages (cfg : Cfg) (fs : FS) (path : Str) : Out :=
  match ensureAbs cfg path with
  | .error cls => ⟨.crash cls, []⟩
  | .ok none => ⟨.notFound, []⟩
  | .ok (some fp) =>
    match checkPathIsFile fs (some fp) with
    | (.absent, log) =>
      if !Gen.Static.htmlSuffixTest.isSuffixOf fp && fp != cfg.dir then
        let fp' := fp ++ Gen.Static.htmlSuffix
        let (r', log') := checkPathIsFile fs (some fp')
        pagesFinish cfg.wsgi path fp' r' (log ++ log')
      else ⟨.notFound, log⟩
    | (r, log) => pagesFinish cfg.wsgi path fp r log

def serve (cfg : Cfg) (fs : FS) (path : Str) : Out :=
  if cfg.pages then servePages cfg fs path else serveFiles cfg fs path

/-! ### constructing the app: `BaseFiles.__init__` / `normalize_dir_path` -/

/-- `directory` given without a package: `os.path.abspath(directory)` in the current directory `cwd` -/
def normalizeDir (cwd directory : Str) : Str := abspath cwd directory

/-- `directory` inside a package whose `spec.origin` is `origin`:
`normpath(join(origin, "..", directory))`, asserted to be a directory -/
def normalizePkgDir (fs : FS) (origin directory : Str) : Except String Str :=
  if directory.head? = some 47 then .error "AssertionError"   -- isabs(directory) and package is not None
  else
    let d := normpath (join2 (join2 origin pardir) directory)
    match osStat fs d with
    | .isDir => .ok d
    | _ => .error "AssertionError"

/-! ### the tree description of the harness → `FS` -/

structure Tree where
  base : List Str                          -- absolute location of the world
  files : List (List Str × List Nat)       -- absolute locations of regular files
  dirs : List (List Str)                   -- absolute locations of (possibly empty) directories

def properPrefix (a b : List Str) : Bool := a.isPrefixOf b && a.length < b.length

def Tree.fs (t : Tree) : FS := fun key =>
  match t.files.find? (fun f => f.1 == key) with
  | some f => .file f.2
  | none =>
    if key.isPrefixOf t.base || t.dirs.any (fun d => key.isPrefixOf d) ||
        t.files.any (fun f => properPrefix key f.1) then .dir
    else if t.files.any (fun f => properPrefix f.1 key) then .notDir
    else .missing

/-- `<cps base>;f:<cps rel path>:<cps content>;d:<cps rel path>;…` -/
def parseTree (tok : String) : Tree :=
  match tok.splitOn ";" with
  | [] => ⟨[], [], []⟩
  | b :: entries =>
    let base := segsOf (Wire.parseNatList b)
    entries.foldl (fun t e =>
      match e.splitOn ":" with
      | ["f", p, c] => { t with files := t.files ++ [(base ++ segsOf (Wire.parseNatList p), Wire.parseNatList c)] }
      | ["d", p] => { t with dirs := t.dirs ++ [base ++ segsOf (Wire.parseNatList p)] }
      | _ => t) ⟨base, [], []⟩

/-! ### line protocol -/

def renderAccess : Access → String
  | .stat p => "s:" ++ Wire.renderNatList p
  | .opened p => "o:" ++ Wire.renderNatList p

def Out.render (o : Out) : String :=
  let r := match o.resp with
    | .file c => "200 " ++ Wire.renderNatList c
    | .redirect t => s!"{Gen.Static.redirectStatus} " ++ Wire.renderNatList t
    | .redirectReplaced => s!"{Gen.Static.redirectStatus} replaced"
    | .notFound => "http 404"
    | .crash cls => "crash " ++ cls
  r ++ " acc=" ++ (if o.log.isEmpty then "-" else ";".intercalate (o.log.map renderAccess))

/-- `static <Files|Pages> <wsgi|asgi> <dir|pkg> <directory> <ctx> <path> <tree>`
`ctx` is the current directory at construction (`dir`) or `spec.origin` (`pkg`).
Both interfaces have the same model (up to `redirectTo` on an unencodable path). -/
def run (args : List String) : String :=
  let pages := (args[0]?).getD "" == "Pages"
  let wsgi := (args[1]?).getD "" == "wsgi"
  let mode := (args[2]?).getD ""
  let directory := Wire.listArg args 3
  let ctx := Wire.listArg args 4
  let path := Wire.listArg args 5
  let fs := (parseTree ((args[6]?).getD "")).fs
  if mode == "pkg" then
    match normalizePkgDir fs ctx directory with
    | .error cls => "ctor " ++ cls
    | .ok d => (serve ⟨d, [47], pages, wsgi⟩ fs path).render
  else
    (serve ⟨normalizeDir ctx directory, ctx, pages, wsgi⟩ fs path).render

end Baize.Static
