/-
Model of `MultiMapping` / `MutableMultiMapping` / `QueryParams` / `FormData`
(baize/datastructures.py) and of the `urllib.parse` functions they use.

State = the two representations the classes keep:

  `_dict`  a Python dict  -> insertion-ordered association list with unique keys
                             (`dGet`, `dSet` = assignment keeps the position of an
                             existing key / appends a new one, `dDel`)
  `_list`  the list of `(key, value)` pairs

Keys and values are naturals: the code only ever tests keys for equality.  Every
mutator is transcribed with its control structure:

  __setitem__   index surgery (`indexes`, `frist_index`, reversed loop with
                in-place overwrite / `del self._list[index]`)      -> `setitem`
  __delitem__   the list is rebuilt first, then `del self._dict[key]` may raise
                                                                     -> `delitem`
  setlist / poplist / append                                         -> same names
  collections.abc.MutableMapping mixins actually inherited:
  pop / popitem (first dict key) / setdefault / update / clear (popitem loop)
  Mapping.__contains__ (try self[key])                               -> `contains`

Where Python raises `KeyError` the model returns `Out.keyError`; nothing is
totalised.  Constructors: the four branches of `MultiMapping.__init__`
(`Raw`).  `__eq__` is the order-insensitive comparison (fix C17-01).

Query strings: strings are lists of code points.  `urlencode` (= `quote_plus`
over UTF-8, `&`-joined `k=v`) returns `none` where Python raises
`UnicodeEncodeError` (lone surrogate); `parseQsl` = `parse_qsl(qs,
keep_blank_values=…)` with `unquote` (ASCII runs percent-decoded and decoded as
UTF-8 with errors="replace", non-ASCII characters passed through).  Two pure
short-cuts of CPython (`'%' not in string`, the `rstrip` test of
`quote_from_bytes`) are not transcribed: they return what the general path
returns.
-/
import BaizeVerif.Model.Wire
import BaizeVerif.Gen.MultiMap

namespace Baize.MultiMap

abbrev Pairs := List (Nat × Nat)

/-! ### Python dict as an association list -/

/-- `d[k]` (`none` = KeyError) -/
def dGet : Pairs → Nat → Option Nat
  | [], _ => none
  | (a, b) :: r, k => if a = k then some b else dGet r k

/-- `d[k] = v`: an existing key keeps its position, a new key goes last -/
def dSet : Pairs → Nat → Nat → Pairs
  | [], k, v => [(k, v)]
  | (a, b) :: r, k, v => if a = k then (a, v) :: r else (a, b) :: dSet r k v

/-- `del d[k]` for a present key (keys are unique) -/
def dDel (d : Pairs) (k : Nat) : Pairs := d.filter fun p => p.1 != k

/-- `dict(items)` -/
def dictOf (items : Pairs) : Pairs := items.foldl (fun d p => dSet d p.1 p.2) []

structure State where
  dict : Pairs
  list : Pairs
  deriving DecidableEq, Repr

/-! ### Constructor -/

/-- what `MultiMapping.__init__` is given -/
inductive Raw where
  | none                  -- raw is None
  | pairs (ps : Pairs)    -- any iterable of pairs
  | mapping (ps : Pairs)  -- the Mapping `dict(ps)`
  | multi (ps : Pairs)    -- a MultiMapping built from `ps`
  deriving Repr

/-- `self._dict = dict(_items); self._list = _items` -/
def mk (items : Pairs) : State := { dict := dictOf items, list := items }

/-- the `_items` computed by the four branches of `__init__` -/
def rawItems : Raw → Pairs
  | .none => []
  | .multi ps => (mk ps).list          -- list(raw.multi_items())
  | .mapping ps => dictOf ps           -- list(raw.items())
  | .pairs ps => ps                    -- list(raw)

def init (raw : Raw) : State := mk (rawItems raw)

/-! ### Views -/

/-- `__getitem__`: `self._dict[key]` -/
def getitem (s : State) (k : Nat) : Option Nat := dGet s.dict k

/-- `__iter__` / `keys()` -/
def keys (s : State) : List Nat := s.dict.map (·.1)

/-- `__len__` -/
def len (s : State) : Nat := s.dict.length

/-- `getlist`: the comprehension over `_list` -/
def getlist (s : State) (k : Nat) : List Nat := (s.list.filter fun p => p.1 == k).map (·.2)

/-- `multi_items` -/
def multiItems (s : State) : Pairs := s.list

/-- `Mapping.__contains__`: `try: self[key]` -/
def contains (s : State) (k : Nat) : Bool := (getitem s k).isSome

/-- `list.remove(x)`: `none` = ValueError -/
def removeFirst {α} [DecidableEq α] (x : α) : List α → Option (List α)
  | [] => none
  | y :: r => if y = x then some r else (removeFirst x r).map (y :: ·)

/-- the loop of `__eq__`: remove every item of the left list from a copy of the right one -/
def eqLoop {α} [DecidableEq α] : List α → List α → Bool
  | [], _ => true
  | x :: xs, rest =>
    match removeFirst x rest with
    | none => false
    | some rest' => eqLoop xs rest'

/-- `__eq__` between two instances of the same class (as repaired by C17-01) -/
def eqLists {α} [DecidableEq α] (a b : List α) : Bool :=
  if a.length != b.length then false else eqLoop a b

def eq (a b : State) : Bool := eqLists a.list b.list

/-! ### Mutators -/

inductive Out where
  | none
  | val (v : Nat)
  | vals (vs : List Nat)
  | item (k v : Nat)
  | keyError
  deriving DecidableEq, Repr

/-- `tuple(index for index, kv in enumerate(self._list) if kv[0] == key)`, counting from `i` -/
def indexesOf (k : Nat) : Pairs → Nat → List Nat
  | [], _ => []
  | p :: r, i => if p.1 = k then i :: indexesOf k r (i + 1) else indexesOf k r (i + 1)

/-- the body of `for index in reversed(indexes)`, given the indexes already reversed -/
def surgery (first : Nat) (kv : Nat × Nat) : List Nat → Pairs → Pairs
  | [], l => l
  | i :: is, l => surgery first kv is (if i = first then l.set i kv else l.eraseIdx i)

/-- `__setitem__` -/
def setitem (s : State) (k v : Nat) : State :=
  let indexes := indexesOf k s.list 0
  let l :=
    match indexes with
    | first :: _ => surgery first (k, v) indexes.reverse s.list
    | [] => s.list ++ [(k, v)]
  { dict := dSet s.dict k v, list := l }

/-- `__delitem__`: the pair list is rewritten before `del self._dict[key]` can raise -/
def delitem (s : State) (k : Nat) : State × Out :=
  let l := s.list.filter fun p => p.1 != k
  match dGet s.dict k with
  | Option.none => ({ s with list := l }, .keyError)
  | some _ => ({ dict := dDel s.dict k, list := l }, .none)

/-- `append` -/
def append (s : State) (k v : Nat) : State :=
  { dict := dSet s.dict k v, list := s.list ++ [(k, v)] }

/-- `setlist` -/
def setlist (s : State) (k : Nat) (vs : List Nat) : State × Out :=
  match vs.getLast? with
  | some last =>
    ({ dict := dSet s.dict k last,
       list := (s.list.filter fun p => p.1 != k) ++ vs.map fun v => (k, v) }, .none)
  | Option.none => if contains s k then delitem s k else (s, .none)

/-- `poplist`: a KeyError of `del self[key]` is swallowed -/
def poplist (s : State) (k : Nat) : State × Out :=
  ((delitem s k).1, .vals (getlist s k))

/-- `MutableMapping.pop(key[, default])` -/
def pop (s : State) (k : Nat) (default : Option Nat) : State × Out :=
  match getitem s k with
  | Option.none =>
    match default with
    | Option.none => (s, .keyError)
    | some d => (s, .val d)
  | some v =>
    let r := delitem s k
    if r.2 = .keyError then r else (r.1, .val v)

/-- `MutableMapping.popitem`: `key = next(iter(self)); value = self[key]; del self[key]` -/
def popitem (s : State) : State × Out :=
  match s.dict with
  | [] => (s, .keyError)
  | (k, _) :: _ =>
    match getitem s k with
    | Option.none => (s, .keyError)
    | some v =>
      let r := delitem s k
      if r.2 = .keyError then r else (r.1, .item k v)

/-- `MutableMapping.setdefault(key, default)` -/
def setdefault (s : State) (k d : Nat) : State × Out :=
  match getitem s k with
  | some v => (s, .val v)
  | Option.none => (setitem s k d, .val d)

/-- `for key, value in …: self[key] = value` -/
def assignAll (s : State) (ps : Pairs) : State := ps.foldl (fun s p => setitem s p.1 p.2) s

/-- `MutableMapping.clear`: `while True: self.popitem()` until KeyError.  The fuel
is never exhausted (`clear_empties` in Props/C17). -/
def clearLoop : Nat → State → State
  | 0, s => s
  | n + 1, s =>
    let r := popitem s
    if r.2 = .keyError then r.1 else clearLoop n r.1

def clear (s : State) : State := clearLoop (s.dict.length + 1) s

inductive Op where
  | setitem (k v : Nat)
  | delitem (k : Nat)
  | append (k v : Nat)
  | setlist (k : Nat) (vs : List Nat)
  | poplist (k : Nat)
  | pop (k : Nat)
  | popD (k d : Nat)
  | popitem
  | setdefault (k d : Nat)
  | updatePairs (ps : Pairs)     -- update(iterable of pairs)
  | updateMapping (ps : Pairs)   -- update(dict(ps)): `for key in other: self[key] = other[key]`
  | updateMulti (ps : Pairs)     -- update(MultiMapping(ps)): the same loop over its dict
  | updateKw (ps : Pairs)        -- update(**dict(ps))
  | clear
  deriving Repr

def step (s : State) : Op → State × Out
  | .setitem k v => (setitem s k v, .none)
  | .delitem k => delitem s k
  | .append k v => (append s k v, .none)
  | .setlist k vs => setlist s k vs
  | .poplist k => poplist s k
  | .pop k => pop s k Option.none
  | .popD k d => pop s k (some d)
  | .popitem => popitem s
  | .setdefault k d => setdefault s k d
  | .updatePairs ps => (assignAll s ps, .none)
  | .updateMapping ps => (assignAll s (dictOf ps), .none)
  | .updateMulti ps => (assignAll s (mk ps).dict, .none)
  | .updateKw ps => (assignAll s (dictOf ps), .none)
  | .clear => (clear s, .none)

/-- run a whole sequence, collecting the outputs -/
def run (s : State) : List Op → State × List Out
  | [] => (s, [])
  | op :: ops =>
    let r := step s op
    let t := run r.1 ops
    (t.1, r.2 :: t.2)

/-! ### Query strings (`urllib.parse` as used by `QueryParams`) -/

abbrev Str := List Nat

/-- UTF-8 of one code point; `none` = UnicodeEncodeError (lone surrogate) -/
def utf8Enc (c : Nat) : Option (List Nat) :=
  if c < 0x80 then some [c]
  else if c < 0x800 then some [0xC0 + c / 64, 0x80 + c % 64]
  else if c < 0x10000 then
    if 0xD800 ≤ c ∧ c < 0xE000 then none
    else some [0xE0 + c / 4096, 0x80 + c / 64 % 64, 0x80 + c % 64]
  else if c < 0x110000 then
    some [0xF0 + c / 262144, 0x80 + c / 4096 % 64, 0x80 + c / 64 % 64, 0x80 + c % 64]
  else none

/-- `str.encode("utf-8", "strict")` -/
def utf8EncStr : Str → Option (List Nat)
  | [] => some []
  | c :: r =>
    match utf8Enc c, utf8EncStr r with
    | some a, some b => some (a ++ b)
    | _, _ => none

/-- state of the decoder inside a multi-byte sequence -/
structure Pending where
  acc : Nat
  need : Nat
  lo : Nat
  hi : Nat
  deriving Repr

/-- lead bytes of well-formed sequences (Unicode table 3-7) with the range of the second byte -/
def lead (b : Nat) : Option Pending :=
  if 0xC2 ≤ b ∧ b ≤ 0xDF then some ⟨b - 0xC0, 1, 0x80, 0xBF⟩
  else if b = 0xE0 then some ⟨0, 2, 0xA0, 0xBF⟩
  else if b = 0xED then some ⟨13, 2, 0x80, 0x9F⟩
  else if 0xE1 ≤ b ∧ b ≤ 0xEF then some ⟨b - 0xE0, 2, 0x80, 0xBF⟩
  else if b = 0xF0 then some ⟨0, 3, 0x90, 0xBF⟩
  else if 0xF1 ≤ b ∧ b ≤ 0xF3 then some ⟨b - 0xF0, 3, 0x80, 0xBF⟩
  else if b = 0xF4 then some ⟨4, 3, 0x80, 0x8F⟩
  else none

/-- a byte seen outside a sequence: what is emitted, and the new state -/
def decStart (b : Nat) : List Nat × Option Pending :=
  if b < 0x80 then ([b], none)
  else
    match lead b with
    | some p => ([], some p)
    | none => ([0xFFFD], none)

/-- `bytes.decode("utf-8", "replace")`: every maximal ill-formed prefix becomes U+FFFD -/
def utf8Dec : Option Pending → List Nat → List Nat
  | none, [] => []
  | some _, [] => [0xFFFD]
  | none, b :: r => (decStart b).1 ++ utf8Dec (decStart b).2 r
  | some p, b :: r =>
    if p.lo ≤ b ∧ b ≤ p.hi then
      if p.need = 1 then (p.acc * 64 + (b - 0x80)) :: utf8Dec none r
      else utf8Dec (some ⟨p.acc * 64 + (b - 0x80), p.need - 1, 0x80, 0xBF⟩) r
    else 0xFFFD :: ((decStart b).1 ++ utf8Dec (decStart b).2 r)

/-- `_ALWAYS_SAFE`: letters, digits, `_.-~` -/
def alwaysSafe (b : Nat) : Bool :=
  (65 ≤ b && b ≤ 90) || (97 ≤ b && b ≤ 122) || (48 ≤ b && b ≤ 57) ||
    b == 95 || b == 46 || b == 45 || b == 126

/-- one digit of `'%{:02X}'` -/
def hexDigit (n : Nat) : Nat := if n < 10 then 48 + n else 55 + n

/-- `_Quoter.__missing__` -/
def quoteByte (safe : List Nat) (b : Nat) : List Nat :=
  if alwaysSafe b || safe.contains b then [b] else [37, hexDigit (b / 16), hexDigit (b % 16)]

/-- `quote(string, safe)` for str input -/
def quote (s : Str) (safe : List Nat) : Option Str :=
  (utf8EncStr s).map fun bs => bs.flatMap (quoteByte safe)

/-- `quote_plus(string)` -/
def quotePlus (s : Str) : Option Str :=
  if s.contains 32 then (quote s [32]).map fun t => t.map fun c => if c = 32 then 43 else c
  else quote s []

/-- the list `l` of `urlencode`: `k + '=' + v` per pair -/
def encFields : List (Str × Str) → Option (List Str)
  | [] => some []
  | (k, v) :: r =>
    match quotePlus k, quotePlus v, encFields r with
    | some a, some b, some fs => some ((a ++ 61 :: b) :: fs)
    | _, _, _ => none

/-- `'&'.join(l)` -/
def joinAmp : List Str → Str
  | [] => []
  | [f] => f
  | f :: g :: r => f ++ 38 :: joinAmp (g :: r)

/-- `urlencode(pairs)` = `str(QueryParams)`; `none` = UnicodeEncodeError -/
def urlencode (ps : List (Str × Str)) : Option Str := (encFields ps).map joinAmp

/-- `s.split(sep)` for a one-character separator -/
def splitOn (sep : Nat) : Str → List Str
  | [] => [[]]
  | c :: cs =>
    if c = sep then [] :: splitOn sep cs
    else
      match splitOn sep cs with
      | h :: t => (c :: h) :: t
      | [] => [[c]]

/-- `s.split(sep, 1)`: the part before the first `sep`, and the rest if there is one -/
def splitFirst (sep : Nat) : Str → Str × Option Str
  | [] => ([], none)
  | c :: cs =>
    if c = sep then ([], some cs)
    else ((c :: (splitFirst sep cs).1), (splitFirst sep cs).2)

def isHex (c : Nat) : Bool := (48 ≤ c && c ≤ 57) || (65 ≤ c && c ≤ 70) || (97 ≤ c && c ≤ 102)

def hexVal (c : Nat) : Nat := if c ≤ 57 then c - 48 else if c ≤ 70 then c - 55 else c - 87

/-- the byte spelled by the two characters after a `%`, if both are hex digits (`_hextobyte[item[:2]]`) -/
def hexPair : Str → Option Nat
  | h1 :: h2 :: _ => if isHex h1 && isHex h2 then some (hexVal h1 * 16 + hexVal h2) else none
  | _ => none

/-- `_unquote_impl` on ASCII text: `%XX` with two hex digits becomes the byte, any other `%` stays.
`skip` = characters already consumed as hex digits. -/
def unquoteFrom : Nat → Str → List Nat
  | _, [] => []
  | skip + 1, _ :: r => unquoteFrom skip r
  | 0, c :: r =>
    if c = 37 then
      match hexPair r with
      | some b => b :: unquoteFrom 2 r
      | none => 37 :: unquoteFrom 0 r
    else c :: unquoteFrom 0 r

def unquoteBytes (s : Str) : List Nat := unquoteFrom 0 s

/-- `_generate_unquoted_parts`: `run` is the pending ASCII run; non-ASCII characters are copied -/
def unquoteGo : Str → Str → Str
  | run, [] => utf8Dec none (unquoteBytes run)
  | run, c :: cs =>
    if c < 128 then unquoteGo (run ++ [c]) cs
    else utf8Dec none (unquoteBytes run) ++ c :: unquoteGo [] cs

/-- `unquote(string)` (utf-8, errors="replace") -/
def unquote (s : Str) : Str := unquoteGo [] s

/-- `.replace('+', ' ')` -/
def plusToSpace (s : Str) : Str := s.map fun c => if c = 43 then 32 else c

/-- the body of the loop of `parse_qsl` (strict_parsing = False) for one `name_value` -/
def parseField (keepBlank : Bool) (nv : Str) : Option (Str × Str) :=
  if nv = [] then none
  else
    match splitFirst 61 nv with
    | (n, Option.none) =>
      if keepBlank then some (unquote (plusToSpace n), unquote (plusToSpace [])) else none
    | (n, some v) =>
      if v.length != 0 || keepBlank then some (unquote (plusToSpace n), unquote (plusToSpace v))
      else none

/-- `parse_qsl(qs, keep_blank_values=keepBlank)` -/
def parseQsl (keepBlank : Bool) (qs : Str) : List (Str × Str) :=
  if qs = [] then [] else (splitOn 38 qs).filterMap (parseField keepBlank)

/-- `QueryParams(str)`: the pair list handed to `MultiMapping.__init__` -/
def queryOfStr (qs : Str) : List (Str × Str) := parseQsl Gen.MultiMap.keepBlankStr qs

/-- `QueryParams(bytes)`: latin-1 decoding is the identity on code points -/
def queryOfBytes (bs : List Nat) : List (Str × Str) := parseQsl Gen.MultiMap.keepBlankBytes bs

/-! ### Line protocol -/

def renderVals (vs : List Nat) : String :=
  if vs.isEmpty then "-" else ".".intercalate (vs.map toString)

def renderItems (l : Pairs) : String :=
  if l.isEmpty then "-" else ",".intercalate (l.map fun p => s!"{p.1}.{p.2}")

def renderKeys (l : List Nat) : String :=
  if l.isEmpty then "-" else ",".intercalate (l.map toString)

def flag (b : Bool) : String := if b then "1" else "0"

def renderView (s : State) (nkeys : Nat) (probe : State) : String :=
  let per := (List.range nkeys).map fun k =>
    let gi := match getitem s k with
      | some v => toString v
      | Option.none => "E"
    s!"{renderVals (getlist s k)}:{gi}:{flag (contains s k)}"
  "/".intercalate [renderItems (multiItems s), renderKeys (keys s), toString (len s),
    (if per.isEmpty then "-" else ",".intercalate per),
    flag (eq s probe) ++ flag (eq s (mk (multiItems s).reverse)), "R1"]

def Out.render : Out → String
  | .none => "N"
  | .val v => s!"V{v}"
  | .vals vs => "L" ++ renderVals vs
  | .item k v => s!"I{k}.{v}"
  | .keyError => "E"

def toPairs : List Nat → Option Pairs
  | [] => some []
  | k :: v :: r => (toPairs r).map ((k, v) :: ·)
  | [_] => Option.none

def takePairs : Nat → List Nat → Option (Pairs × List Nat)
  | 0, r => some ([], r)
  | n + 1, k :: v :: r => (takePairs n r).map fun x => ((k, v) :: x.1, x.2)
  | _ + 1, _ => Option.none

def takeN : Nat → List Nat → Option (List Nat × List Nat)
  | 0, r => some ([], r)
  | n + 1, x :: r => (takeN n r).map fun y => (x :: y.1, y.2)
  | _ + 1, [] => Option.none

def decodeOne : List Nat → Option (Op × List Nat)
  | 0 :: k :: v :: r => some (.setitem k v, r)
  | 1 :: k :: r => some (.delitem k, r)
  | 2 :: k :: v :: r => some (.append k v, r)
  | 3 :: k :: n :: r => (takeN n r).map fun x => (.setlist k x.1, x.2)
  | 4 :: k :: r => some (.poplist k, r)
  | 5 :: k :: r => some (.pop k, r)
  | 6 :: k :: d :: r => some (.popD k d, r)
  | 7 :: r => some (.popitem, r)
  | 8 :: k :: d :: r => some (.setdefault k d, r)
  | 9 :: n :: r => (takePairs n r).map fun x => (.updatePairs x.1, x.2)
  | 10 :: n :: r => (takePairs n r).map fun x => (.updateMapping x.1, x.2)
  | 11 :: n :: r => (takePairs n r).map fun x => (.updateMulti x.1, x.2)
  | 12 :: n :: r => (takePairs n r).map fun x => (.updateKw x.1, x.2)
  | 13 :: r => some (.clear, r)
  | _ => Option.none

def decodeOps : Nat → List Nat → Option (List Op)
  | _, [] => some []
  | 0, _ :: _ => Option.none
  | f + 1, x :: r =>
    match decodeOne (x :: r) with
    | Option.none => Option.none
    | some (op, rest) => (decodeOps f rest).map (op :: ·)

def decodeInit : List Nat → Option Raw
  | [] => Option.none
  | form :: flat =>
    match toPairs flat with
    | Option.none => Option.none
    | some ps =>
      if form = 0 then some .none
      else if form = 1 then some (.pairs ps)
      else if form = 2 then some (.mapping ps)
      else if form ≤ 6 then some (.multi ps)
      else Option.none

def traceFrom (nkeys : Nat) (probe : State) : State → List Op → List String
  | _, [] => []
  | s, op :: ops =>
    let r := step s op
    (r.2.render ++ "|" ++ renderView r.1 nkeys probe) :: traceFrom nkeys probe r.1 ops

/-- `mm_seq <nkeys> <init> <probe> <ops>` -/
def runSeq (args : List String) : String :=
  let nkeys := Wire.natArg args 0
  let opsFlat := Wire.listArg args 3
  match decodeInit (Wire.listArg args 1), toPairs (Wire.listArg args 2),
      decodeOps (opsFlat.length + 1) opsFlat with
  | some raw, some probePs, some ops =>
    let s := init raw
    let probe := mk probePs
    ";".intercalate (renderView s nkeys probe :: traceFrom nkeys probe s ops)
  | _, _, _ => "bad-op"

/-- `mm_same <nkeys> <init>`: MultiMapping, MutableMultiMapping, QueryParams and FormData run the
same constructor and the same view methods (`source_pinned`), so the four views are one view -/
def runSame (args : List String) : String :=
  let nkeys := Wire.natArg args 0
  let flat := Wire.listArg args 1
  match decodeInit flat, toPairs flat.tail with
  | some raw, some ps =>
    let v := renderView (init raw) nkeys (mk ps)
    ";".intercalate [v, v, v, v]
  | _, _ => "bad-op"

/-- `mm_eq <pairs> <pairs>` -/
def runEq (args : List String) : String :=
  match toPairs (Wire.listArg args 0), toPairs (Wire.listArg args 1) with
  | some p1, some p2 =>
    let a := mk p1
    let b := mk p2
    let f := flag (eq a b) ++ flag (eq b a) ++ flag (eq a (init (.multi a.list)))
    "ok " ++ f ++ "," ++ f
  | _, _ => "bad-op"

def parseStrPairs (tok : String) : List (Str × Str) :=
  if tok == "-" || tok == "" then []
  else (tok.splitOn ";").map fun p =>
    match p.splitOn ":" with
    | [k, v] => (Wire.parseNatList k, Wire.parseNatList v)
    | _ => ([], [])

def renderStrPairs (ps : List (Str × Str)) : String :=
  if ps.isEmpty then "-"
  else ";".intercalate (ps.map fun p => Wire.renderNatList p.1 ++ ":" ++ Wire.renderNatList p.2)

/-- does `QueryParams(str(q)) == q` ?  `X` when `str()` raises -/
def rtFlag (ps : List (Str × Str)) : String :=
  match urlencode ps with
  | Option.none => "X"
  | some s => flag (eqLists (queryOfStr s) ps)

/-- `qs_enc <pairs>` -/
def runEnc (args : List String) : String :=
  let ps := parseStrPairs ((args[0]?).getD "-")
  match urlencode ps with
  | Option.none => "crash UnicodeEncodeError"
  | some s => "ok " ++ Wire.renderNatList s ++ " " ++ rtFlag ps

/-- `qs_parse <mode> <cps>` -/
def runParse (args : List String) : String :=
  let mode := (args[0]?).getD ""
  let raw := Wire.listArg args 1
  if mode == "0" then
    let ps := queryOfStr raw
    "ok " ++ renderStrPairs ps ++ " " ++ rtFlag ps
  else if mode == "1" then
    if raw.any (· > 255) then "bad-op"
    else
      let ps := queryOfBytes raw
      "ok " ++ renderStrPairs ps ++ " " ++ rtFlag ps
  else "bad-op"

end Baize.MultiMap
