/-
Models of the ASGI streaming responses (property C06), baize/asgi/responses.py.

asyncio runs one task at a time; a task runs from one suspension point (`await` of something
not yet ready) to the next.  The scheduler picks any task that is ready — the order is not
under the program's control (I/O readiness, timers), so the theorems quantify over all orders.
Cancellation rule: `task.cancel()` on a task that is not done returns True and makes the task
receive `CancelledError` at the suspension point it is waiting in (a task that never started
is simply dropped); on a finished task it returns False.

`StreamingResponse.__call__` (the task `main`):
    await send_http_start(...)                                 mpc = .start
    wait_close_future = ensure_future(self.wait_close(receive))   (task `watcher`)
    generator = self.render_stream()
    try:    while not self._client_closed:                     mpc = .loopTest
                chunk = await generator.asend(None)            (runs the render_stream frame)
                await send_http_body(send, chunk, more_body=True)      mpc = .send
    except StopAsyncIteration: pass
    finally:
            wait_close_future.cancel()                         mpc = .finCancel
            await generator.aclose()                           mpc = .finAclose
    return await send_http_body(send)                          mpc = .finalSend
`wait_close` (task `watcher`): while not closed: message = await receive(); closed = (type == disconnect)

Part S — `StreamResponse.render_stream`:  async for chunk in iterable: yield chunk / finally: await g.aclose()
Part E — `SendEventResponse.render_stream` with the relay task `push` (one-slot asyncio.Queue,
should_stop flag, ping timeout of `wait_for`), whose consumer `finally` contains no `await` and
is therefore ONE atomic step (`rsFinally`): flag, drain, cancel() / exception().

The producer yields items 0 … n-1, then stops (`fails = false`) or raises.  `cleanups` counts
how often the producer's own `finally` ran.  Core Lean only.
-/
import BaizeVerif.Model.Stream

namespace Baize.StreamAsgi

open Baize.Stream (Slot)

/-- the user's async generator -/
inductive GenSt where
  | fresh       -- never started
  | running     -- inside a step (`__anext__` called, not yet yielded)
  | suspended   -- at a `yield`
  | finished    -- exhausted, raised, cancelled inside, or closed: its `finally` ran
  deriving DecidableEq, Repr

/-- the response's own async generator `render_stream()` -/
inductive RSt where
  | fresh | open | finished
  deriving DecidableEq, Repr

inductive WPc where
  | none | waiting | done
  deriving DecidableEq, Repr

/-! ## Part S — StreamResponse -/

inductive STid where
  | main | watcher | disconnect
  deriving DecidableEq, Repr

inductive SPc where
  | start | loopTest | anext | send | finCancel | finAclose | finalSend | done
  deriving DecidableEq, Repr

structure SState where
  n : Nat
  fails : Bool
  produced : Nat
  gen : GenSt
  cleanups : Nat
  disc : Bool         -- the server has an http.disconnect for `receive()`
  closed : Bool       -- self._client_closed
  wpc : WPc
  wcancel : Bool      -- cancellation of the watcher requested
  mpc : SPc
  render : RSt
  delivered : List Nat
  finalSent : Nat
  excPending : Bool   -- the producer's exception is propagating out of `__call__`
  raised : Bool
  deriving DecidableEq, Repr

def sinit (n : Nat) (fails : Bool) : SState :=
  { n := n, fails := fails, produced := 0, gen := .fresh, cleanups := 0, disc := false,
    closed := false, wpc := .none, wcancel := false, mpc := .start, render := .fresh,
    delivered := [], finalSent := 0, excPending := false, raised := false }

def SState.yielded (s : SState) : List Nat := List.range s.produced

def smain (s : SState) : Option SState :=
  match s.mpc with
  | .start => some { s with wpc := .waiting, mpc := .loopTest }
  | .loopTest => some { s with mpc := if s.closed then .finCancel else .anext }
  | .anext =>
    -- `generator.asend(None)`: one step of the producer inside `async for`
    if s.produced < s.n then
      some { s with produced := s.produced + 1, gen := .suspended, render := .open, mpc := .send }
    else
      -- exhausted (or raises): the producer's finally runs, then render_stream's finally
      -- (`await g.aclose()` on the finished generator does nothing)
      some { s with gen := .finished, cleanups := s.cleanups + 1, render := .finished,
                    excPending := s.fails, mpc := .finCancel }
  | .send => some { s with delivered := s.delivered ++ [s.produced - 1], mpc := .loopTest }
  | .finCancel => some { s with wcancel := if s.wpc = .waiting then true else s.wcancel, mpc := .finAclose }
  | .finAclose =>
    -- `await generator.aclose()`: GeneratorExit at the yield of render_stream -> its finally
    -- closes the producer (suspended at its own yield)
    let s1 := if s.render = .open then
        { s with render := .finished, gen := .finished, cleanups := s.cleanups + 1 } else s
    if s1.excPending then some { s1 with raised := true, mpc := .done }
    else some { s1 with mpc := .finalSend }
  | .finalSend => some { s with finalSent := s.finalSent + 1, mpc := .done }
  | .done => none

def swatcher (s : SState) : Option SState :=
  if s.wpc = .waiting then
    if s.wcancel then some { s with wpc := .done }
    else if s.disc then some { s with closed := true, wpc := .done }
    else none
  else none

def sstep (t : STid) (s : SState) : Option SState :=
  match t with
  | .main => smain s
  | .watcher => swatcher s
  | .disconnect => if s.disc then none else some { s with disc := true }

def senabled (s : SState) (t : STid) : Bool := (sstep t s).isSome
def sstepD (s : SState) (t : STid) : SState := (sstep t s).getD s
def srun (sched : List STid) (s : SState) : SState := sched.foldl sstepD s

def SPc.pos : SPc → Nat
  | .start => 8 | .anext => 6 | .send => 5 | .loopTest => 4 | .finCancel => 3 | .finAclose => 2
  | .finalSend => 1 | .done => 0

/-- decreases on every step of every task once the disconnect was received -/
def srank (s : SState) : Nat :=
  3 * s.mpc.pos + (if s.wpc = .waiting then 1 else 0) + (if s.disc then 0 else 1)

/-! ## Part E — SendEventResponse -/

inductive ETid where
  | main | watcher | relay | disconnect | timer
  deriving DecidableEq, Repr

inductive EPc where
  | start | loopTest | rsLoop | rsGet | send | finCancel | finAclose | finalSend | done
  deriving DecidableEq, Repr

/-- the relay task `push`; every value is a suspension point (or not started / done) -/
inductive ERPc where
  | none      -- not created yet
  | idle      -- created, first step not yet run
  | anext     -- inside `await i.__anext__()`
  | put       -- inside `await q.put(item)`, queue full
  | putNone   -- inside `await q.put(None)` of the finally, queue full
  | done
  deriving DecidableEq, Repr

structure EState where
  n : Nat
  fails : Bool
  produced : Nat
  gen : GenSt
  cleanups : Nat
  disc : Bool
  closed : Bool
  wpc : WPc
  wcancel : Bool
  mpc : EPc
  render : RSt
  cur : Option Nat      -- chunk being sent: an item, or `none` = ping
  q : Slot
  stop : Bool
  rpc : ERPc
  rcancel : Bool        -- cancellation of the relay requested, not yet delivered
  failed : Bool         -- the relay's task holds the producer's exception
  taken : Nat
  delivered : List Nat
  pings : Nat
  finalSent : Nat
  excPending : Bool
  raised : Bool
  acl : Nat             -- calls of `aclose()` on the user's iterable made by the relay (iterator objects: their cleanup)
  deriving DecidableEq, Repr

def einit (n : Nat) (fails : Bool) : EState :=
  { n := n, fails := fails, produced := 0, gen := .fresh, cleanups := 0, disc := false,
    closed := false, wpc := .none, wcancel := false, mpc := .start, render := .fresh, cur := none,
    q := .empty, stop := false, rpc := .none, rcancel := false, failed := false, taken := 0,
    delivered := [], pings := 0, finalSent := 0, excPending := false, raised := false,
    acl := 0 }

def EState.yielded (s : EState) : List Nat := List.range s.produced

/-- the consumer's `finally` (no await inside: atomic): flag, drain, cancel() or exception() -/
def rsFinally (s : EState) : EState :=
  if s.rpc = .done then
    { s with stop := true, q := .empty, render := .finished, excPending := s.failed }
  else
    { s with stop := true, q := .empty, render := .finished, rcancel := true }

def emain (s : EState) : Option EState :=
  match s.mpc with
  | .start => some { s with wpc := .waiting, mpc := .loopTest }
  | .loopTest =>
    if s.closed then some { s with mpc := .finCancel }
    else if s.render = .fresh then some { s with render := .open, rpc := .idle, mpc := .rsLoop }
    else some { s with mpc := .rsLoop }
  | .rsLoop =>
    if s.rpc = .done ∧ s.q = .empty then some { rsFinally s with mpc := .finCancel }
    else some { s with mpc := .rsGet }
  | .rsGet =>
    match s.q with
    | .empty => none
    | .item i => some { s with q := .empty, taken := s.taken + 1, cur := some i, mpc := .send }
    | .sentinel => some { rsFinally { s with q := .empty } with mpc := .finCancel }
  | .send =>
    match s.cur with
    | some i => some { s with delivered := s.delivered ++ [i], mpc := .loopTest }
    | none => some { s with pings := s.pings + 1, mpc := .loopTest }
  | .finCancel => some { s with wcancel := if s.wpc = .waiting then true else s.wcancel, mpc := .finAclose }
  | .finAclose =>
    let s1 := if s.render = .open then rsFinally s else s
    if s1.excPending then some { s1 with raised := true, mpc := .done }
    else some { s1 with mpc := .finalSend }
  | .finalSend => some { s with finalSent := s.finalSent + 1, mpc := .done }
  | .done => none

def ewatcher (s : EState) : Option EState :=
  if s.wpc = .waiting then
    if s.wcancel then some { s with wpc := .done }
    else if s.disc then some { s with closed := true, wpc := .done }
    else none
  else none

/-- the relay's `finally`: `try: await q.put(None)` / `finally: await g.aclose()` -/
def relayFinally (s : EState) : EState :=
  if s.q = .empty then
    if s.gen = .suspended then
      { s with q := .sentinel, gen := .finished, cleanups := s.cleanups + 1, rpc := .done, acl := s.acl + 1 }
    else { s with q := .sentinel, rpc := .done, acl := s.acl + 1 }
  else { s with rpc := .putNone }

def erelay (s : EState) : Option EState :=
  if s.rcancel then
    -- CancelledError is delivered at the current suspension point
    match s.rpc with
    | .idle => some { s with rcancel := false, rpc := .done }
    | .anext => some (relayFinally { s with rcancel := false, gen := .finished, cleanups := s.cleanups + 1 })
    | .put => some (relayFinally { s with rcancel := false })
    | .putNone =>
      -- raised inside `await q.put(None)`: the inner `finally` still releases the producer
      if s.gen = .suspended then
        some { s with rcancel := false, gen := .finished, cleanups := s.cleanups + 1, rpc := .done, acl := s.acl + 1 }
      else some { s with rcancel := false, rpc := .done, acl := s.acl + 1 }
    | .none => none
    | .done => none
  else
    match s.rpc with
    | .none => none
    | .idle => some { s with rpc := .anext, gen := .running }
    | .anext =>
      if s.produced < s.n then
        let s1 := { s with produced := s.produced + 1, gen := .suspended }
        if s.q = .empty then
          let s2 := { s1 with q := .item s.produced }
          if s.stop then some { s2 with rpc := .putNone } else some { s2 with rpc := .anext, gen := .running }
        else some { s1 with rpc := .put }
      else
        let s1 := { s with gen := .finished, cleanups := s.cleanups + 1 }
        if s.fails then some (relayFinally { s1 with failed := true })
        else some (relayFinally { s1 with stop := true })
    | .put =>
      if s.q = .empty then
        let s2 := { s with q := .item (s.produced - 1) }
        if s.stop then some { s2 with rpc := .putNone } else some { s2 with rpc := .anext, gen := .running }
      else none
    | .putNone =>
      if s.q = .empty then
        if s.gen = .suspended then
          some { s with q := .sentinel, gen := .finished, cleanups := s.cleanups + 1, rpc := .done, acl := s.acl + 1 }
        else some { s with q := .sentinel, rpc := .done, acl := s.acl + 1 }
      else none
    | .done => none

def estep (t : ETid) (s : EState) : Option EState :=
  match t with
  | .main => emain s
  | .watcher => ewatcher s
  | .relay => erelay s
  | .disconnect => if s.disc then none else some { s with disc := true }
  | .timer => if s.mpc = .rsGet ∧ s.q = .empty then some { s with cur := none, mpc := .send } else none

def eenabled (s : EState) (t : ETid) : Bool := (estep t s).isSome
def estepD (s : EState) (t : ETid) : EState := (estep t s).getD s
def erun (sched : List ETid) (s : EState) : EState := sched.foldl estepD s

def EPc.pos : EPc → Nat
  | .start => 9 | .rsLoop => 8 | .rsGet => 7 | .send => 6 | .loopTest => 5 | .finCancel => 4
  | .finAclose => 3 | .finalSend => 2 | .done => 0

def ERPc.base : ERPc → Nat
  | .none => 0 | .done => 0 | .putNone => 1 | .put => 2 | .anext => 3 | .idle => 4

/-- decreases on every step of every task (ping timer included) once the disconnect was received -/
def erank (s : EState) : Nat :=
  10 * s.mpc.pos + s.rpc.base + (if s.q = .empty then 3 else 0) + (if s.rcancel then 1 else 0) +
    (if s.wpc = .waiting then 1 else 0) + (if s.disc then 0 else 1)

/-! ## Trace acceptor (line protocol)

The harness records, on the real code, the vector of monotone counters
`[produced, delivered, pings, cleanups, finalSent]` each time it changes, and how the call ended.
`accepts` decides whether that sequence is the observation of SOME run of the model: every real
execution has to be a run of the transition system the theorems are about. -/

def leAll : List Nat → List Nat → Bool
  | [], [] => true
  | a :: as, b :: bs => a ≤ b && leAll as bs
  | _, _ => false

def chunk5 : List Nat → List (List Nat)
  | a :: b :: c :: d :: e :: rest => [a, b, c, d, e] :: chunk5 rest
  | _ => []

def SState.obs (s : SState) : List Nat :=
  [s.produced, s.delivered.length, 0, s.cleanups, s.finalSent]

def EState.obs (s : EState) : List Nat :=
  [s.produced, s.delivered.length, s.pings, s.cleanups, s.finalSent]

def ssuccs (s : SState) : List SState := [STid.main, .watcher, .disconnect].filterMap (sstep · s)
def esuccs (s : EState) : List EState :=
  [ETid.main, .watcher, .relay, .disconnect, .timer].filterMap (estep · s)

/-- states reachable from `front` along paths whose observations stay below `bound` -/
def sclosure (bound : List Nat) : Nat → List SState → List SState → List SState
  | 0, _, vis => vis
  | _ + 1, [], vis => vis
  | fuel + 1, s :: rest, vis =>
    let new := ((ssuccs s).filter fun s' => leAll s'.obs bound && !(vis.contains s')).eraseDups
    sclosure bound fuel (rest ++ new) (vis ++ new)

def eclosure (bound : List Nat) : Nat → List EState → List EState → List EState
  | 0, _, vis => vis
  | _ + 1, [], vis => vis
  | fuel + 1, s :: rest, vis =>
    let new := ((esuccs s).filter fun s' => leAll s'.obs bound && !(vis.contains s')).eraseDups
    eclosure bound fuel (rest ++ new) (vis ++ new)

def saccepts (raised : Bool) : Nat → List (List Nat) → List SState → String
  | k, [], cur =>
    let all := sclosure ((cur.head?.map (·.obs)).getD []) 4000 cur cur
    if all.any fun s => s.mpc == .done && s.wpc == .done && s.raised == raised then "accept"
    else s!"reject final after {k}"
  | k, o :: os, cur =>
    let next := (sclosure o 4000 cur cur).filter fun s => s.obs == o
    if next.isEmpty then s!"reject {k}" else saccepts raised (k + 1) os next

def eaccepts (raised : Bool) : Nat → List (List Nat) → List EState → String
  | k, [], cur =>
    let all := eclosure ((cur.head?.map (·.obs)).getD []) 4000 cur cur
    if all.any fun s => s.mpc == .done && s.wpc == .done && (s.rpc == .none || s.rpc == .done)
        && s.raised == raised then "accept"
    else s!"reject final after {k}"
  | k, o :: os, cur =>
    let next := (eclosure o 4000 cur cur).filter fun s => s.obs == o
    if next.isEmpty then s!"reject {k}" else eaccepts raised (k + 1) os next

/-- `asgi_trace <kind 0=stream 1=sse> <n> <fails> <d> <aw> <mode> <raised> <observations>` -/
def runTrace (args : List String) : String :=
  let kind := Wire.natArg args 0
  let n := Wire.natArg args 1
  let fails := Wire.natArg args 2 != 0
  let raised := Wire.natArg args 6 != 0
  let obs := chunk5 (Wire.listArg args 7)
  if kind = 0 then saccepts raised 0 obs [sinit n fails]
  else eaccepts raised 0 obs [einit n fails]

end Baize.StreamAsgi
