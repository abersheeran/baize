/-
Models of the streaming responses (property C06): explicit-scheduler transition systems.

Here `Baize.Stream.W*`: the WSGI server-sent-event relay
(baize/wsgi/responses.py, `SendEventResponse.render_stream`).

    relay thread (`push`, runs in SendEventResponse.thread_pool)
        try:    i = iter(self.iterable)
                while not should_stop:                     -- RPc.test
                    try:    q.put(next(i))                 -- RPc.next ; RPc.put (blocks while q is full)
                    except StopIteration: should_stop = True
        finally:
                q.put(None)                                -- RPc.putNone (blocks while q is full)
                g.close()                                  -- RPc.close
    consumer (the generator frame driven by the WSGI server: next() / close())
        try:    while not (push_future.done() and q.empty()):   -- CPc.loopDone ; CPc.loopEmpty
                    try:    event = q.get(timeout=ping)    -- CPc.get (blocks while q is empty; the
                                                              timeout is the scheduler step `timer`)
                            if event is None: got_sentinel = True; break
                            yield ...                      -- CPc.yielded (server decides: resume / close)
                    except queue.Empty: yield ping
        finally:
                should_stop = True                         -- CPc.finFlag
       (fixed)  if not push_future.cancel():               -- CPc.finCancel
                    while not got_sentinel:                -- CPc.finDrain (blocking get, no timeout)
                        got_sentinel = q.get() is None
                    exc = push_future.exception()          -- CPc.finWait (blocks until the relay is done)
       (current, before the repair)
                while not q.empty(): q.get_nowait()        -- CPc.oldEmpty ; CPc.oldGetNowait
                if not push_future.cancel():               -- CPc.finCancel
                    exc = push_future.exception()          -- CPc.finWait

Blocking is "the step is not enabled" (`wstep` returns `none`).  The scheduler is a
list of thread ids, universally quantified in the theorems.  The producer yields the
items 0, 1, …, n-1 and then stops (`fails = false`) or raises (`fails = true`).

Core Lean only.
-/
import BaizeVerif.Model.Wire
import BaizeVerif.Gen.Stream

namespace Baize.Stream

/-- which closing protocol the consumer's `finally` runs -/
inductive Variant where
  | current   -- flag, drain once, cancel / wait            (the code before the repair)
  | fixed     -- flag, cancel / take until the sentinel, wait
  deriving DecidableEq, Repr

/-- the shape of the repaired consumer `finally` (see tools/gen/c06.py) -/
def fixedFinally : List String := ["flag", "if(cancel)[while()[get];exception;if()[raise]]"]
/-- the shape of the consumer `finally` before the repair -/
def currentFinally : List String := ["flag", "while(empty)[get_nowait]", "if(cancel)[exception;if()[raise]]"]

/-- the protocol the WSGI source implements now (regenerated from /repo on every run) -/
def wsgiVariant : Variant :=
  if Gen.Stream.wsgiConsumerFinally = fixedFinally then .fixed else .current

/-- scheduler labels -/
inductive Tid where
  | relay    -- the pool thread running `push`
  | cons     -- the thread driving the response generator (resume after a yield included)
  | closer   -- the server closes the response iterable (GeneratorExit at the current yield)
  | timer    -- the ping timeout of `q.get(timeout=…)` fires
  | fail     -- the consumer's own code raises right after taking an item (e.g. the event cannot
             -- be encoded by `build_bytes_from_sse`): the `finally` runs with the item dropped
  deriving DecidableEq, Repr

/-- the one-slot queue -/
inductive Slot where
  | empty
  | item (i : Nat)
  | sentinel
  deriving DecidableEq, Repr

inductive RPc where
  | idle | test | next | put | putNone | close | done | cancelled
  deriving DecidableEq, Repr

inductive CPc where
  | loopDone | loopEmpty | get | yielded
  | finFlag | finCancel | finDrain | finWait
  | oldEmpty | oldGetNowait
  | done
  deriving DecidableEq, Repr

structure WState where
  n : Nat               -- producer length
  fails : Bool          -- does the producer raise after its n items?
  produced : Nat        -- items the producer has yielded so far (they are 0 … produced-1)
  genClosed : Nat       -- how often `g.close()` was called
  q : Slot
  stop : Bool           -- should_stop
  rpc : RPc
  failed : Bool         -- the relay's future holds the producer's exception
  cpc : CPc
  gotSentinel : Bool
  taken : Nat           -- items removed from the queue by the consumer (delivered or dropped)
  delivered : List Nat  -- items handed to the server, in order
  pings : Nat
  raised : Bool         -- the consumer re-raised the producer's exception
  consFailed : Bool     -- the consumer's own code raised (scheduler step `fail`)
  deriving DecidableEq, Repr

def winit (n : Nat) (fails : Bool) : WState :=
  { n := n, fails := fails, produced := 0, genClosed := 0, q := .empty, stop := false,
    rpc := .idle, failed := false, cpc := .loopDone, gotSentinel := false, taken := 0,
    delivered := [], pings := 0, raised := false, consFailed := false }

/-- items the producer has yielded so far -/
def WState.yielded (s : WState) : List Nat := List.range s.produced

/-- `Queue(maxsize=…)`: a put is possible while fewer than maxsize items are stored.
The state space has one slot; `Props.C06.source_pinned` pins maxsize = 1. -/
def Slot.canPut (q : Slot) : Bool :=
  match q with
  | .empty => decide (0 < Gen.Stream.wsgiQueueMaxsize)
  | _ => decide (1 < Gen.Stream.wsgiQueueMaxsize)

def RPc.finished : RPc → Bool
  | .done | .cancelled => true
  | _ => false

/-- one step of the relay thread -/
def relayStep (s : WState) : Option WState :=
  match s.rpc with
  | .idle => some { s with rpc := .test }
  | .test => some { s with rpc := if s.stop then .putNone else .next }
  | .next =>
    if s.produced < s.n then some { s with produced := s.produced + 1, rpc := .put }
    else if s.fails then some { s with failed := true, rpc := .putNone }
    else some { s with stop := true, rpc := .test }
  | .put => if s.q.canPut then some { s with q := .item (s.produced - 1), rpc := .test } else none
  | .putNone => if s.q.canPut then some { s with q := .sentinel, rpc := .close } else none
  | .close => some { s with genClosed := s.genClosed + 1, rpc := .done }
  | .done => none
  | .cancelled => none

/-- one step of the consumer frame (its `finally` included) -/
def consStep (v : Variant) (s : WState) : Option WState :=
  match s.cpc with
  | .loopDone => some { s with cpc := if s.rpc.finished then .loopEmpty else .get }
  | .loopEmpty => some { s with cpc := if s.q = .empty then .finFlag else .get }
  | .get =>
    match s.q with
    | .empty => none
    | .item i => some { s with q := .empty, taken := s.taken + 1, delivered := s.delivered ++ [i],
                               cpc := .yielded }
    | .sentinel => some { s with q := .empty, gotSentinel := true, cpc := .finFlag }
  | .yielded => some { s with cpc := .loopDone }
  | .finFlag =>
    some { s with stop := true, cpc := match v with | .fixed => .finCancel | .current => .oldEmpty }
  | .oldEmpty => some { s with cpc := if s.q = .empty then .finCancel else .oldGetNowait }
  | .oldGetNowait =>
    match s.q with
    | .empty => some { s with cpc := .oldEmpty }      -- cannot happen (only the consumer removes)
    | .item _ => some { s with q := .empty, taken := s.taken + 1, cpc := .oldEmpty }
    | .sentinel => some { s with q := .empty, cpc := .oldEmpty }
  | .finCancel =>
    if s.rpc = .idle then some { s with rpc := .cancelled, cpc := .done }
    else some { s with cpc := match v with | .fixed => .finDrain | .current => .finWait }
  | .finDrain =>
    if s.gotSentinel then some { s with cpc := .finWait }
    else match s.q with
      | .empty => none
      | .item _ => some { s with q := .empty, taken := s.taken + 1 }
      | .sentinel => some { s with q := .empty, gotSentinel := true }
  | .finWait =>
    if s.rpc.finished then some { s with cpc := .done, raised := s.failed } else none
  | .done => none

/-- the transition function; `none` = the thread is blocked / has nothing to do -/
def wstep (v : Variant) (t : Tid) (s : WState) : Option WState :=
  match t with
  | .relay => relayStep s
  | .cons => consStep v s
  | .closer => if s.cpc = .yielded then some { s with cpc := .finFlag } else none
  | .timer =>
    if s.cpc = .get ∧ s.q = .empty then some { s with pings := s.pings + 1, cpc := .yielded } else none
  | .fail =>
    if s.cpc = .get then
      match s.q with
      | .item _ => some { s with q := .empty, taken := s.taken + 1, consFailed := true, cpc := .finFlag }
      | _ => none
    else none

def wenabled (v : Variant) (s : WState) (t : Tid) : Bool := (wstep v t s).isSome

/-- scheduling a blocked thread is a no-op -/
def wstepD (v : Variant) (s : WState) (t : Tid) : WState := (wstep v t s).getD s

/-- run a schedule -/
def wrun (v : Variant) (sched : List Tid) (s : WState) : WState := sched.foldl (wstepD v) s

/-- the consumer is inside its `finally` (after a close, a break or a normal loop exit) -/
def CPc.closing : CPc → Bool
  | .finFlag | .finCancel | .finDrain | .finWait | .oldEmpty | .oldGetNowait => true
  | _ => false

/-- the response call has returned (or re-raised the producer's exception) -/
def WState.finished (s : WState) : Bool := s.cpc = .done

/-! ### Ranking function for the closing phase -/

def relayRank (s : WState) : Nat :=
  match s.rpc with
  | .idle => 7 + (if s.stop then 0 else if s.q = .empty then 3 else 0)
  | .test => (if s.stop then 3 else 6 + (if s.q = .empty then 3 else 0))
  | .next => 5 + (if s.stop then 0 else if s.q = .empty then 3 else 0)
  | .put => 4 + (if s.stop then 0 else if s.q = .empty then 3 else 0)
  | .putNone => 2
  | .close => 1
  | .done => 0
  | .cancelled => 0

def consRank (s : WState) : Nat :=
  match s.cpc with
  | .finFlag => 5
  | .oldEmpty => 4
  | .oldGetNowait => 4
  | .finCancel => 3
  | .finDrain => 2
  | .finWait => 1
  | _ => 0

def wrank (s : WState) : Nat :=
  consRank s + 2 * relayRank s + (if s.q = .empty then 0 else 1)

/-! ### Line protocol (driver): forced schedules and a canonical fair run -/

def RPc.isLocal : RPc → Bool
  | .test | .next | .close => true
  | _ => false

/-- the consumer's next step makes no queue / future call (`should_stop = True`, or the test of
`while not got_sentinel` once the sentinel was seen) -/
def WState.consLocal (s : WState) : Bool :=
  match s.cpc with
  | .finFlag => true
  | .finDrain => s.gotSentinel
  | _ => false

/-- run the local (non-call) steps of a thread until it reaches its next queue / future call,
a yield, or its end: the granularity at which the harness can park real threads -/
def settleRelay (v : Variant) : Nat → WState → WState
  | 0, s => s
  | k + 1, s => if s.rpc.isLocal then
      match wstep v .relay s with
      | some s' => settleRelay v k s'
      | none => s
    else s

def settleCons (v : Variant) : Nat → WState → WState
  | 0, s => s
  | k + 1, s => if s.consLocal then
      match wstep v .cons s with
      | some s' => settleCons v k s'
      | none => s
    else s

/-- one macro step: the scheduled thread performs its pending call and runs on to its next call -/
def macroStep (v : Variant) (t : Tid) (s : WState) : Option WState :=
  match wstep v t s with
  | none => none
  | some s' =>
    match t with
    | .relay => some (settleRelay v 8 s')
    | _ => some (settleCons v 8 s')

def Slot.render : Slot → String
  | .empty => "e"
  | .item i => s!"i{i}"
  | .sentinel => "s"

def RPc.render : RPc → String
  | .idle => "start" | .test => "test" | .next => "next" | .put => "put" | .putNone => "putNone"
  | .close => "close" | .done => "done" | .cancelled => "cancelled"

def CPc.render : CPc → String
  | .loopDone => "done?" | .loopEmpty => "empty?" | .get => "get_t" | .yielded => "yield"
  | .finFlag => "flag" | .finCancel => "cancel" | .finDrain => "get" | .finWait => "exception"
  | .oldEmpty => "empty?" | .oldGetNowait => "get_nowait" | .done => "end"

/-- what the harness can observe of a quiescent state -/
def WState.render (s : WState) : String :=
  s!"{s.rpc.render}/{s.cpc.render}/q={s.q.render}/y={s.produced}/d={Wire.renderNatList s.delivered}/p={s.pings}/c={s.genClosed}/r={if s.raised then 1 else 0}/f={if s.consFailed then 1 else 0}"

def tidOfNat : Nat → Tid
  | 0 => .relay
  | 1 => .cons
  | 2 => .closer
  | 4 => .fail
  | _ => .timer

/-- replay a schedule at macro-step granularity, rendering the state after every step
(`x` when the named thread is blocked) -/
def traceSched (v : Variant) : List Nat → WState → List String
  | [], _ => []
  | t :: ts, s =>
    match macroStep v (tidOfNat t) s with
    | none => "x" :: traceSched v ts s
    | some s' => s'.render :: traceSched v ts s'

/-- `wsgi_sched <n> <fails> <schedule>`: forced schedule on the protocol the source implements -/
def runSched (args : List String) : String :=
  let n := Wire.natArg args 0
  let fails := Wire.natArg args 1 != 0
  let s0 := settleCons wsgiVariant 8 (winit n fails)
  " ".intercalate (s0.render :: traceSched wsgiVariant (Wire.listArg args 2) s0)

/-- a fair canonical scheduler for the real-thread scenario "close after k events":
the consumer runs whenever it can; when it is suspended at a yield it is resumed until `k`
events were delivered and closed afterwards; the relay runs when the consumer cannot. -/
def fairRun (v : Variant) (k : Nat) : Nat → WState → WState
  | 0, s => s
  | fuel + 1, s =>
    if s.cpc = .done then s
    else if s.cpc = .yielded then
      if s.delivered.length < k then fairRun v k fuel (wstepD v s .cons)
      else fairRun v k fuel (wstepD v s .closer)
    else match wstep v .cons s with
      | some s' => fairRun v k fuel s'
      | none =>
        match wstep v .relay s with
        | some s' => fairRun v k fuel s'
        | none => s   -- deadlock

/-- `wsgi_real <n> <k> <fails> …`: outcome of "close after k events" (ping interval = never) -/
def runReal (args : List String) : String :=
  let n := Wire.natArg args 0
  let k := Wire.natArg args 1
  let fails := Wire.natArg args 2 != 0
  -- k = 0: the server closes the body iterable before it asked for a first chunk.  `__call__` and `render_stream`
  -- are generator functions: closing a generator that was never started runs none of its code (Python's rule, see
  -- Model/StreamWsgi.lean) - no relay was submitted, the producer was never touched
  if k = 0 then s!"{if fails then "end" else "ret"} closed=0 left=0 over=0 del=-" else
  let s := fairRun wsgiVariant k (20 * (n + 4)) (winit n fails)
  if s.cpc = .done then
    let left := if s.rpc.finished then 0 else 1
    s!"{if fails then "end" else "ret"} closed={s.genClosed} left={left} over=0 del={Wire.renderNatList s.delivered}"
  else "hang"

/-- like `fairRun`, but the consumer's own code raises when it takes item `j` -/
def failRun (v : Variant) (j : Nat) : Nat → WState → WState
  | 0, s => s
  | fuel + 1, s =>
    if s.cpc = .done then s
    else if s.cpc = .get ∧ s.q = .item j then failRun v j fuel (wstepD v s .fail)
    else match wstep v .cons s with
      | some s' => failRun v j fuel s'
      | none =>
        match wstep v .relay s with
        | some s' => failRun v j fuel s'
        | none => s

/-- `wsgi_encfail <n> <j>`: real threads, the j-th event cannot be encoded -/
def runEncfail (args : List String) : String :=
  let n := Wire.natArg args 0
  let j := Wire.natArg args 1
  let s := failRun wsgiVariant j (20 * (n + 4)) (winit n false)
  if s.cpc = .done then
    let left := if s.rpc.finished then 0 else 1
    s!"{if s.consFailed then "fail" else "ret"} closed={s.genClosed} left={left} over=0 del={Wire.renderNatList s.delivered}"
  else "hang"

/-- `wsgi_busy`: every pool worker is busy, the first chunk is a ping, then the server closes:
`cancel()` wins because the relay never started -/
def runBusy (_args : List String) : String :=
  let s := wrun wsgiVariant [.cons, .timer, .closer, .cons, .cons, .cons, .cons, .cons, .cons] (winit 2 false)
  if s.cpc = .done then
    let left := if s.rpc.finished then 0 else 1
    s!"ret closed={s.genClosed} left={left} over=0 del={Wire.renderNatList s.delivered}"
  else "hang"

end Baize.Stream
