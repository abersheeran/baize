/-
Model of `FileResponseMixin.parse_range` (baize/responses.py).

The header text is a list of code points (Latin-1 header text: `\d` = ASCII
digits).  The function mirrors the Python code step by step:

  split("=", 1) / unit test            -> `splitEq`
  re.findall(r"(\d*)-(\d*)", s)        -> `scan`
  int(...) on each digit string         -> `digitsVal`, guarded by Python's
                                           4300-digit limit (`intOk`)
  start / end arithmetic                -> `specRange`
  the 416 and 400 checks, in this order -> `parseRange`
  ranges.sort() + linear merge          -> `sortRanges`, `mergeSorted`
-/
import BaizeVerif.Model.Wire
import BaizeVerif.Gen.Range

namespace Baize.Range

/-- Outcome of `parse_range`. -/
inductive Res where
  | ok (rs : List (Nat × Nat))
  | malformed          -- MalformedRangeHeader, 400
  | unsatisfiable      -- RangeNotSatisfiable, 416
  deriving Repr, DecidableEq

def isDigit (c : Nat) : Bool := 48 ≤ c && c ≤ 57

/-- value of a string of ASCII digits (`int(s)`) -/
def digitsVal (ds : List Nat) : Nat := ds.foldl (fun a d => a * 10 + (d - 48)) 0

/-- maximal prefix of digits and the rest (`\d*`, greedy) -/
def spanDigits : List Nat → List Nat × List Nat
  | [] => ([], [])
  | c :: cs =>
    if isDigit c then ((spanDigits cs).1.cons c, (spanDigits cs).2) else ([], c :: cs)

theorem spanDigits_length (l : List Nat) : (spanDigits l).2.length ≤ l.length := by
  induction l with
  | nil => simp [spanDigits]
  | cons c cs ih =>
    unfold spanDigits
    split
    · simp; omega
    · simp

/-- `re.findall(r"(\d*)-(\d*)", s)`: leftmost non-overlapping matches.  At a
position the match is: all digits, a mandatory `-`, all digits.  Backtracking
into the first `\d*` cannot help (the character after fewer digits is a digit,
not `-`), so a failed attempt restarts one position later. -/
def scan (l : List Nat) : List (List Nat × List Nat) :=
  match l with
  | [] => []
  | c :: cs =>
    match _h : (spanDigits (c :: cs)).2 with
    | 45 :: r => ((spanDigits (c :: cs)).1, (spanDigits r).1) :: scan (spanDigits r).2
    | _ => scan cs
termination_by l.length
decreasing_by
  · have h1 := spanDigits_length (c :: cs)
    have h2 := spanDigits_length r
    rw [_h] at h1
    simp at h1 ⊢
    omega
  · simp

/-- `s.split("=", 1)`: `none` when there is no `=` (Python: unpacking fails). -/
def splitEq : List Nat → Option (List Nat × List Nat)
  | [] => none
  | c :: cs =>
    if c = 61 then some ([], cs)
    else match splitEq cs with
      | some (a, b) => some (c :: a, b)
      | none => none

/-- the accepted unit, regenerated from the source on every run ("bytes") -/
def bytesUnit : List Nat := Gen.Range.unitLit

/-- CPython refuses `int(s)` for more than 4300 digits (ValueError). -/
def maxIntDigits : Nat := 4300

def intOk (ds : List Nat) : Bool := ds.length ≤ maxIntDigits

/-- A syntactic spec as extracted by the scanner, digit strings evaluated:
`(some a, some b)` = `a-b`, `(some a, none)` = `a-`, `(none, some b)` = `-b`. -/
abbrev Spec := Option Nat × Option Nat

def toSpec (p : List Nat × List Nat) : Spec :=
  (if p.1 = [] then none else some (digitsVal p.1),
   if p.2 = [] then none else some (digitsVal p.2))

/-- start / end exactly as the comprehension computes them -/
def specRange (n : Nat) : Spec → Int × Nat
  | (some a, some b) => (a, if b < n then b + 1 else n)
  | (some a, none) => (a, n)
  | (none, some b) => ((n : Int) - b, n)
  | (none, none) => ((n : Int), n)     -- filtered out before; never evaluated

def startOk (n : Nat) (r : Int × Nat) : Bool := 0 ≤ r.1 && r.1 < (n : Int)

/-- tuple order of Python: lexicographic on `(start, end)` -/
def leLex (x y : Nat × Nat) : Bool := x.1 < y.1 || (x.1 = y.1 && x.2 ≤ y.2)

/-- insertion into a list sorted by `leLex` -/
def insertSorted (x : Nat × Nat) : List (Nat × Nat) → List (Nat × Nat)
  | [] => [x]
  | y :: ys => if leLex x y then x :: y :: ys else y :: insertSorted x ys

/-- `ranges.sort()` (tuples compare lexicographically; the sorted arrangement of
a multiset under a total antisymmetric order is unique, so any sorting algorithm
gives this list) -/
def sortRanges (l : List (Nat × Nat)) : List (Nat × Nat) := l.foldr insertSorted []

/-- the merge loop over the sorted list; `cur` is `result[-1]`, everything
before it has already been emitted and is never touched again -/
def mergeFrom (cur : Nat × Nat) : List (Nat × Nat) → List (Nat × Nat)
  | [] => [cur]
  | (s, e) :: xs =>
    if s ≤ cur.2 then mergeFrom (cur.1, max e cur.2) xs
    else cur :: mergeFrom (s, e) xs

def mergeSorted : List (Nat × Nat) → List (Nat × Nat)
  | [] => []
  | x :: xs => mergeFrom x xs

/-- everything after the header has been scanned -/
def resolveSpecs (n : Nat) (specs : List Spec) : Res :=
  let ranges := specs.map (specRange n)
  if ranges.isEmpty then .malformed
  else if ranges.any (fun r => !startOk n r) then .unsatisfiable
  else if ranges.any (fun r => decide (r.2 ≤ r.1.toNat)) then .malformed
  else .ok (mergeSorted (sortRanges (ranges.map fun r => (r.1.toNat, r.2))))

/-- unit test, scan, `("", "")` filter, `int()`; `none` = MalformedRangeHeader
before any arithmetic (no `=`, wrong unit, or an `int()` ValueError for a digit
string beyond CPython's limit) -/
def headerSpecs (hdr : List Nat) : Option (List Spec) :=
  match splitEq hdr with
  | none => none
  | some (unit, rest) =>
    if unit ≠ bytesUnit then none
    else
      let found := (scan rest).filter fun p => !(p.1 = [] && p.2 = [])
      if found.any (fun p => !(intOk p.1 && intOk p.2)) then none
      else some (found.map toSpec)

def parseRange (hdr : List Nat) (n : Nat) : Res :=
  match headerSpecs hdr with
  | none => .malformed
  | some specs => resolveSpecs n specs

def Res.render : Res → String
  | .ok rs => "ok " ++ Wire.renderPairs rs
  | .malformed => "http 400"
  | .unsatisfiable => "http 416"

/-- line protocol: `parse_range <cps> <size>` -/
def run (args : List String) : String :=
  (parseRange (Wire.listArg args 0) (Wire.natArg args 1)).render

end Baize.Range
