/-
Model of the router of baize (baize/routing.py, baize/wsgi/routing.py,
baize/asgi/routing.py), as repaired by the C08 `fix:` commits.

Text is a list of code points.  The model mirrors the Python code:

  PARAM_REGEX.finditer / compile_path      -> `paramAt`, `scan`, `compilePath`
  Route.__init__ (re.escape on literals,
    `(?P<name>regex)` for placeholders)     -> `List Seg` (`lit` / `param`)
  convertor regexes                         -> recognisers `shape c`
  re_pattern.fullmatch(path)                -> `matchSegs` (greedy backtracking:
                                               longest placeholder text first)
  convertor.to_python / ValueError          -> `toPython` (`none` = ValueError)
  Route.matches                             -> `routeMatches`
  BaseRouter.search                         -> `search`
  wsgi / asgi Router.__call__               -> `wsgiCall`, `asgiCall`
  convertor.to_string                       -> `toStr`

Values live in an arithmetic model: `int` is a `Nat`; a `Decimal` is
(coefficient, number of fraction digits) as in `Decimal.as_tuple()`; a date is
(y, m, d) with calendar validity; a UUID is its 32 hex digits (values 0..15).
Core Lean only.
-/
import BaizeVerif.Model.Wire
import BaizeVerif.Gen.Router

namespace Baize.Router

/-! ### Characters -/

def isDigit (c : Nat) : Bool := 48 ≤ c && c ≤ 57
def isLowerHex (c : Nat) : Bool := isDigit c || (97 ≤ c && c ≤ 102)
def isAlpha (c : Nat) : Bool := (65 ≤ c && c ≤ 90) || (97 ≤ c && c ≤ 122)
/-- `\w` on ASCII text -/
def isWord (c : Nat) : Bool := isDigit c || isAlpha c || c == 95

def cSlash : Nat := 47
def cDash : Nat := 45
def cDot : Nat := 46
def cLbrace : Nat := 123
def cRbrace : Nat := 125
def cColon : Nat := 58

/-! ### Convertors -/

/-- the six convertor classes of `CONVERTOR_TYPES` -/
inductive Conv where
  | str | int | decimal | uuid | date | any
  deriving Repr, DecidableEq

/-- converted values (`to_python` results) -/
inductive Val where
  | text (s : List Nat)            -- str / any: the text itself
  | int (n : Nat)                  -- int
  | dec (coef : Nat) (exp : Nat)   -- Decimal: coef · 10^(-exp)   (as_tuple: digits of coef, exponent -exp)
  | uuid (hex : List Nat)          -- UUID: 32 hex digit values
  | date (y m d : Nat)             -- datetime.date
  deriving Repr, DecidableEq

/-- character classes of the fixed-width patterns -/
inductive Cls where
  | digit | hex | dash
  deriving Repr, DecidableEq

def Cls.ok : Cls → Nat → Bool
  | .digit, c => isDigit c
  | .hex, c => isLowerHex c
  | .dash, c => c == cDash

/-- a fixed-width pattern: one class per character -/
def matchTpl : List Cls → List Nat → Bool
  | [], [] => true
  | k :: ks, c :: cs => k.ok c && matchTpl ks cs
  | _, _ => false

/-- `[0-9a-f]{8}-[0-9a-f]{4}-[0-9a-f]{4}-[0-9a-f]{4}-[0-9a-f]{12}` -/
def uuidTpl : List Cls :=
  List.replicate 8 .hex ++ [.dash] ++ List.replicate 4 .hex ++ [.dash] ++ List.replicate 4 .hex ++
    [.dash] ++ List.replicate 4 .hex ++ [.dash] ++ List.replicate 12 .hex

/-- `[0-9]{4}-[0-9]{2}-[0-9]{2}` -/
def dateTpl : List Cls :=
  List.replicate 4 .digit ++ [.dash] ++ List.replicate 2 .digit ++ [.dash] ++ List.replicate 2 .digit

/-- `[0-9]+(\.[0-9]+)?` -/
def shapeDecimal (t : List Nat) : Bool :=
  let a := t.takeWhile isDigit
  match t.dropWhile isDigit with
  | [] => !a.isEmpty
  | c :: f => !a.isEmpty && c == cDot && !f.isEmpty && f.all isDigit

/-- the language of each convertor's regex (what `fullmatch` of the regex alone accepts) -/
def shape : Conv → List Nat → Bool
  | .str, t => !t.isEmpty && t.all (· != cSlash)        -- [^/]+
  | .int, t => !t.isEmpty && t.all isDigit              -- [0-9]+
  | .decimal, t => shapeDecimal t
  | .uuid, t => matchTpl uuidTpl t
  | .date, t => matchTpl dateTpl t
  | .any, _ => true                                     -- (?s:.*)

/-- the recogniser written for a regex source string (`none`: no recogniser for that source) -/
def convOfRegex (src : String) : Option Conv :=
  if src = "[^/]+" then some .str
  else if src = "[0-9]+" then some .int
  else if src = "[0-9]+(\\.[0-9]+)?" then some .decimal
  else if src = "[0-9a-f]{8}-[0-9a-f]{4}-[0-9a-f]{4}-[0-9a-f]{4}-[0-9a-f]{12}" then some .uuid
  else if src = "[0-9]{4}-[0-9]{2}-[0-9]{2}" then some .date
  else if src = "(?s:.*)" then some .any
  else none

def strCps (s : String) : List Nat := s.toList.map Char.toNat

/-- `CONVERTOR_TYPES` as regenerated from the source: type name ↦ recogniser of its regex -/
def convTable : List (List Nat × Option Conv) :=
  Gen.Router.convertorTable.map fun nr => (strCps nr.1, convOfRegex nr.2)

/-! ### Numbers as digit strings -/

/-- `int(s)` for a string of ASCII digits -/
def digitsVal (ds : List Nat) : Nat := ds.foldl (fun a d => a * 10 + (d - 48)) 0

/-- the last `k` decimal digits of `n` (`"%0kd" % n` when `n < 10^k`) -/
def padDigits : Nat → Nat → List Nat
  | 0, _ => []
  | k + 1, n => padDigits k (n / 10) ++ [48 + n % 10]

/-- number of decimal digits of `n` (at least one); `fuel` bounds the recursion -/
def ndigitsFuel : Nat → Nat → Nat
  | 0, _ => 1
  | fuel + 1, n => if n < 10 then 1 else ndigitsFuel fuel (n / 10) + 1

def ndigits (n : Nat) : Nat := ndigitsFuel n n

/-- `str(n)` -/
def natDigits (n : Nat) : List Nat := padDigits (ndigits n) n

/-- CPython refuses `int(s)` and `str(n)` beyond 4300 digits (ValueError) -/
def maxIntDigits : Nat := 4300

/-- `s.rstrip("0")` -/
def stripZeros (l : List Nat) : List Nat := (l.reverse.dropWhile (· == 48)).reverse

/-! ### Calendar -/

def isLeap (y : Nat) : Bool := y % 4 == 0 && (y % 100 != 0 || y % 400 == 0)

def daysIn (y m : Nat) : Nat :=
  if m == 2 then (if isLeap y then 29 else 28)
  else if m == 4 || m == 6 || m == 9 || m == 11 then 30 else 31

/-- `datetime.date(y, m, d)` does not raise (MINYEAR = 1, MAXYEAR = 9999) -/
def validDate (y m d : Nat) : Bool :=
  1 ≤ y && y ≤ 9999 && 1 ≤ m && m ≤ 12 && 1 ≤ d && d ≤ daysIn y m

/-! ### to_python / to_string -/

def hexVal (c : Nat) : Nat := if isDigit c then c - 48 else c - 87
def hexChar (n : Nat) : Nat := if n < 10 then 48 + n else 87 + n

/-- `convertor.to_python(text)` for a text that matched the convertor's regex;
`none` = the call raises ValueError (which `Route.matches` turns into "no match"). -/
def toPython : Conv → List Nat → Option Val
  | .str, t => some (.text t)
  | .any, t => some (.text t)
  | .int, t => if t.length ≤ maxIntDigits then some (.int (digitsVal t)) else none
  | .decimal, t =>
    let a := t.takeWhile isDigit
    let f := (t.dropWhile isDigit).drop 1
    some (.dec (digitsVal (a ++ f)) f.length)
  | .uuid, t => some (.uuid ((t.filter (· != cDash)).map hexVal))
  | .date, t =>
    let y := digitsVal (t.take 4)
    let m := digitsVal ((t.drop 5).take 2)
    let d := digitsVal ((t.drop 8).take 2)
    if validDate y m d then some (.date y m d) else none

/-- `format(value, "f")` followed by stripping zeros after the decimal point -/
def decString (coef exp : Nat) : List Nat :=
  let ip := natDigits (coef / 10 ^ exp)
  if exp = 0 then ip                                   -- no "." in the text: unchanged
  else
    let fr := stripZeros (padDigits exp (coef % 10 ^ exp))
    if fr.isEmpty then ip else ip ++ cDot :: fr         -- rstrip("0").rstrip(".")

/-- `str(uuid)`: 8-4-4-4-12 lower-case hex -/
def uuidString (h : List Nat) : List Nat :=
  let c := h.map hexChar
  c.take 8 ++ cDash :: ((c.drop 8).take 4 ++ cDash :: ((c.drop 12).take 4 ++ cDash :: ((c.drop 16).take 4 ++
    cDash :: c.drop 20)))

/-- `date.isoformat()`: `%04d-%02d-%02d` -/
def dateString (y m d : Nat) : List Nat :=
  padDigits 4 y ++ cDash :: (padDigits 2 m ++ cDash :: padDigits 2 d)

/-- `convertor.to_string(value)`; `none` = raises (ValueError, or a value of another type) -/
def toStr : Conv → Val → Option (List Nat)
  | .str, .text s => if s.isEmpty || s.contains cSlash then none else some s
  | .any, .text s => some s
  | .int, .int n => if ndigits n ≤ maxIntDigits then some (natDigits n) else none
  | .decimal, .dec c e => some (decString c e)
  | .uuid, .uuid h => some (uuidString h)
  | .date, .date y m d => some (dateString y m d)
  | _, _ => none

/-- the placeholder accepts the text: the regex matches and `to_python` returns a value -/
def accepts (c : Conv) (t : List Nat) : Bool := shape c t && (toPython c t).isSome

/-! ### Compiled routes -/

/-- one piece of a compiled route -/
inductive Seg where
  | lit (s : List Nat)                     -- literal text, matched verbatim (re.escape)
  | param (name : List Nat) (c : Conv)     -- `(?P<name>regex of c)`
  deriving Repr, DecidableEq

abbrev Route := List Seg
abbrev Params := List (List Nat × Val)

/-- `hi, hi-1, …, lo` (empty when `hi < lo`) -/
def downTo (hi lo : Nat) : List Nat := ((List.range (hi + 1 - lo)).map (· + lo)).reverse

/-- length of the longest prefix whose characters all satisfy `f` -/
def runLen (f : Nat → Bool) (p : List Nat) : Nat := (p.takeWhile f).length

/-- prefix lengths of `p` that the placeholder's regex accepts, in the order the
backtracking engine tries them.  For each of the six regexes that order is
"longest first": greedy `+`/`*` give up one character at a time; uuid/date have a
fixed width; for decimal the engine tries the integer part as long as possible,
then the fraction as long as possible, then no fraction (a shorter integer part
is followed by a digit, so it admits no fraction) — every step down is a shorter text. -/
def cands : Conv → List Nat → List Nat
  | .str, p => downTo (runLen (· != cSlash) p) 1
  | .int, p => downTo (runLen isDigit p) 1
  | .any, p => downTo p.length 0
  | .uuid, p => if matchTpl uuidTpl (p.take 36) then [36] else []
  | .date, p => if matchTpl dateTpl (p.take 10) then [10] else []
  | .decimal, p =>
    let m := runLen isDigit p
    if m = 0 then []
    else
      (match p.drop m with
        | c :: r => if c == cDot then downTo (m + 1 + runLen isDigit r) (m + 2) else []
        | [] => []) ++ downTo m 1

/-- `re_pattern.fullmatch(path)`: the text of every piece, or `none`.
The first split (in the engine's order) whose remainder matches wins.
(Third equation: a placeholder at the very end has to take all that is left, so the
walk down its candidates is replaced by one test — the result is the same, the
walk would reject every shorter candidate because text remains.) -/
def matchSegs : List Seg → List Nat → Option (List (List Nat))
  | [], p => if p.isEmpty then some [] else none
  | .lit s :: rest, p =>
    if s.isPrefixOf p then (matchSegs rest (p.drop s.length)).map (s :: ·) else none
  | [.param _ c], p => if shape c p then some [p] else none
  | .param _ c :: seg :: rest, p =>
    (cands c p).findSome? fun k => (matchSegs (seg :: rest) (p.drop k)).map (p.take k :: ·)

/-- `match.groupdict()`: the texts of the placeholders, in order -/
def groupTexts : List Seg → List (List Nat) → List (List Nat × List Nat)
  | .lit _ :: segs, _ :: ts => groupTexts segs ts
  | .param n _ :: segs, t :: ts => (n, t) :: groupTexts segs ts
  | _, _ => []

/-- the dict comprehension of `Route.matches`: `none` as soon as one `to_python` raises -/
def convertAll : List Seg → List (List Nat) → Option Params
  | .lit _ :: segs, _ :: ts => convertAll segs ts
  | .param n c :: segs, t :: ts =>
    match toPython c t with
    | none => none
    | some v => (convertAll segs ts).map ((n, v) :: ·)
  | _, _ => some []

/-- `Route.matches(path)`: `none` = `(False, {})` -/
def routeMatches (r : Route) (p : List Nat) : Option Params :=
  match matchSegs r p with
  | none => none
  | some texts => convertAll r texts

/-- `BaseRouter.search`: index of the first matching route and its parameters -/
def searchFrom (i : Nat) : List Route → List Nat → Option (Nat × Params)
  | [], _ => none
  | r :: rs, p =>
    match routeMatches r p with
    | some ps => some (i, ps)
    | none => searchFrom (i + 1) rs p

def search (rs : List Route) (p : List Nat) : Option (Nat × Params) := searchFrom 0 rs p

/-- what a `Router.__call__` does -/
inductive Outcome where
  | endpoint (i : Nat) (pathParams : Params)   -- route i's endpoint is called with these path parameters
  | notFound                                    -- `Response(404)`
  deriving Repr, DecidableEq

/-- `baize.wsgi.routing.Router.__call__` (`environ["PATH_PARAMS"] = path_params`) -/
def wsgiCall (rs : List Route) (pathInfo : List Nat) : Outcome :=
  match search rs pathInfo with
  | none => .notFound
  | some (i, ps) => .endpoint i ps

/-- `baize.asgi.routing.Router.__call__` (`scope["path_params"] = path_params`) -/
def asgiCall (rs : List Route) (path : List Nat) : Outcome :=
  match search rs path with
  | none => .notFound
  | some (i, ps) => .endpoint i ps

/-! ### compile_path / Route.__init__ -/

/-- why constructing a `Route` raises -/
inductive CompileError where
  | unknownConvertor     -- compile_path: ValueError("Unknown path convertor")
  | unsupportedRegex     -- the source's regex for this convertor is not one the model has a recogniser for
  | badFormat            -- a brace outside a placeholder: str.format syntax error / KeyError
  | badGroupName         -- `(?P<name>` with a name that is not an identifier: re.error
  | duplicateName        -- the same name twice: re.error (redefinition of group name)
  deriving Repr, DecidableEq

/-- PARAM_REGEX `{([^\d]\w*)(:\w+)?}` tried right after a `{`: name, optional type, rest.
No backtracking can succeed where the greedy attempt fails (the character after
a shorter `\w*` is a word character, neither `:` nor `}`). -/
def paramAt (l : List Nat) : Option (List Nat × Option (List Nat) × List Nat) :=
  match l with
  | [] => none
  | c :: cs =>
    if isDigit c then none
    else
      let w := cs.takeWhile isWord
      match cs.dropWhile isWord with
      | [] => none
      | x :: r =>
        if x == cRbrace then some (c :: w, none, r)
        else if x == cColon then
          let ty := r.takeWhile isWord
          match r.dropWhile isWord with
          | y :: r' => if y == cRbrace && !ty.isEmpty then some (c :: w, some ty, r') else none
          | [] => none
        else none

/-- pieces of a route text: literal characters and placeholders -/
inductive Tok where
  | ch (c : Nat)
  | ph (name : List Nat) (ty : Option (List Nat))
  deriving Repr, DecidableEq

/-- `PARAM_REGEX.finditer(path)`: leftmost, non-overlapping -/
def scan : Nat → List Nat → List Tok
  | 0, _ => []
  | _ + 1, [] => []
  | fuel + 1, c :: cs =>
    if c == cLbrace then
      match paramAt cs with
      | some (name, ty, rest) => .ph name ty :: scan fuel rest
      | none => .ch c :: scan fuel cs
    else .ch c :: scan fuel cs

def isIdent : List Nat → Bool
  | [] => false
  | c :: cs => (isAlpha c || c == 95) && cs.all isWord

def lookupConv (ty : List Nat) : List (List Nat × Option Conv) → Option (Option Conv)
  | [] => none
  | (n, c) :: rest => if n = ty then some c else lookupConv ty rest

/-- group literal characters, resolve convertor types -/
def build : List Tok → List Nat → Except CompileError Route
  | [], acc => .ok (if acc.isEmpty then [] else [.lit acc.reverse])
  | .ch c :: ts, acc => build ts (c :: acc)
  | .ph name ty :: ts, acc =>
    match lookupConv (ty.getD (strCps Gen.Router.defaultType)) convTable with
    | none => .error .unknownConvertor
    | some none => .error .unsupportedRegex
    | some (some c) =>
      match build ts [] with
      | .error e => .error e
      | .ok segs => .ok ((if acc.isEmpty then [] else [.lit acc.reverse]) ++ .param name c :: segs)

def paramNames : Route → List (List Nat)
  | [] => []
  | .lit _ :: r => paramNames r
  | .param n _ :: r => n :: paramNames r

def hasBrace : Route → Bool
  | [] => false
  | .lit s :: r => s.contains cLbrace || s.contains cRbrace || hasBrace r
  | .param _ _ :: r => hasBrace r

def nodup : List (List Nat) → Bool
  | [] => true
  | x :: xs => !xs.contains x && nodup xs

/-- `Route(path, endpoint)`: compile_path, then the pattern.  Domain: ASCII inside
braces and no doubled braces (`{{`, `}}`); there a stray brace is always an error. -/
def compilePath (path : List Nat) : Except CompileError Route :=
  match build (scan (path.length + 1) path) [] with
  | .error e => .error e
  | .ok r =>
    if hasBrace r then .error .badFormat
    else if !(paramNames r).all isIdent then .error .badGroupName
    else if !nodup (paramNames r) then .error .duplicateName
    else .ok r

def compileTable : List (List Nat) → Except CompileError (List Route)
  | [] => .ok []
  | p :: ps =>
    match compilePath p with
    | .error e => .error e
    | .ok r =>
      match compileTable ps with
      | .error e => .error e
      | .ok rs => .ok (r :: rs)

/-! ### Line protocol -/

def renderName (n : List Nat) : String := String.ofList (n.map Char.ofNat)

def renderVal : Val → String
  | .text s => "s:" ++ Wire.renderNatList s
  | .int n => "i:" ++ toString n
  | .dec c e => "d:" ++ toString c ++ "/" ++ toString e
  | .uuid h => "u:" ++ String.ofList (h.map fun n => Char.ofNat (hexChar n))
  | .date y m d => "t:" ++ toString y ++ "-" ++ toString m ++ "-" ++ toString d

def renderParams (ps : Params) : String :=
  if ps.isEmpty then "-" else ";".intercalate (ps.map fun nv => renderName nv.1 ++ "=" ++ renderVal nv.2)

def renderGroups (gs : List (List Nat × List Nat)) : String :=
  if gs.isEmpty then "-" else ";".intercalate (gs.map fun nt => renderName nt.1 ++ "=" ++ Wire.renderNatList nt.2)

/-- `r_match <pattern> <path>` -/
def runMatch (args : List String) : String :=
  match compilePath (Wire.listArg args 0) with
  | .error _ => "construct-error"
  | .ok r =>
    let p := Wire.listArg args 1
    let re := match matchSegs r p with
      | none => "none"
      | some ts => renderGroups (groupTexts r ts)
    let res := match routeMatches r p with
      | none => "nomatch"
      | some ps => "match " ++ renderParams ps
    "re " ++ re ++ " res " ++ res

def parseTable (s : String) : List (List Nat) :=
  if s == "none" then [] else (s.splitOn "|").map Wire.parseNatList

def renderOutcome : Outcome → String
  | .notFound => "404"
  | .endpoint i ps => "ep " ++ toString i ++ " " ++ renderParams ps

/-- `r_search <table> <path>`: both interfaces -/
def runSearch (args : List String) : String :=
  match compileTable (parseTable ((args[0]?).getD "none")) with
  | .error _ => "construct-error"
  | .ok rs =>
    let p := Wire.listArg args 1
    let w := renderOutcome (wsgiCall rs p)
    let a := renderOutcome (asgiCall rs p)
    if w == a then w else "DIFF wsgi " ++ w ++ " asgi " ++ a

def convOfArg (s : String) : Option Conv :=
  match lookupConv (strCps s) convTable with
  | some (some c) => some c
  | _ => none

/-- `r_convert <type> <text>`: regex, to_python, to_string, and back -/
def runConvert (args : List String) : String :=
  match convOfArg ((args[0]?).getD "") with
  | none => "bad-type"
  | some c =>
    let t := Wire.listArg args 1
    if !shape c t then "noshape"
    else match toPython c t with
      | none => "invalid"
      | some v =>
        match toStr c v with
        | none => "v " ++ renderVal v ++ " s error"
        | some s =>
          let back := if !shape c s then "noshape" else match toPython c s with
            | none => "invalid"
            | some v' => renderVal v'
          "v " ++ renderVal v ++ " s " ++ Wire.renderNatList s ++ " back " ++ back

def parseVal (c : Conv) (args : List String) : Val :=
  match c with
  | .str | .any => .text (Wire.listArg args 1)
  | .int => .int (Wire.natArg args 1)
  | .decimal => .dec (Wire.natArg args 1) (Wire.natArg args 2)
  | .uuid => .uuid ((Wire.listArg args 1).map hexVal)
  | .date => .date (Wire.natArg args 1) (Wire.natArg args 2) (Wire.natArg args 3)

/-- `r_tostring <type> <value…>` -/
def runToString (args : List String) : String :=
  match convOfArg ((args[0]?).getD "") with
  | none => "bad-type"
  | some c =>
    match toStr c (parseVal c args) with
    | none => "error"
    | some s => "s " ++ Wire.renderNatList s

end Baize.Router
