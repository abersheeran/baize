/-
Model of what every response class of baize hands to its server (C05), as repaired by the
`fix:` commits of C05 (lower-case names on the ASGI range-error path, ASCII fallback in
`filename="..."`).

  baize/asgi/helper.py        send_http_start / send_http_body     -> the events `AEv.start`, `AEv.body`
  baize/responses.py          BaseResponse.list_headers            -> `listHeadersStr`, `listHeadersBytes`
                              generate_common_headers              -> `disposition`, `FileResponse.commonHeaders` (C02)
  baize/wsgi/responses.py     StatusStringMapping                  -> `statusLine`
                              Response / SmallResponse / RedirectResponse / StreamResponse /
                              SendEventResponse / FileResponse     -> `construct`, `wsgiCall`, `wsgiRun`
  baize/asgi/responses.py     the twins                            -> `construct`, `asgiCall`, `asgiRun`
                              StreamingResponse.__call__           -> `asgiLoop`, `asgiStreaming`

Reused, not re-modelled: the header mapping (`Headers.initHeaders/setItem/getItem/update`, C13),
the Set-Cookie line (`Cookie.line`, C16), `iri_to_uri` (`Headers.iriToUri`, C13), the encoder of
server-sent events (`SSE.encodeEvent`, C19), and for files the plan, the WSGI chunk list and
the ASGI event list incl. zero-copy (`FileResponse.wsgiPlan/asgiPlan/wsgiRespond/asgiEvents`, C02).

A trace is the list of events the server sees, in order:

  WSGI  `startResponse status headers` (a call of `start_response`), `yield bytes` (an item of
        the iterable), `raise kind` (the exception that ended the call / the iteration)
  ASGI  `start status headers`, `body bytes more_body`, `zerocopy offset count more_body`
        (messages accepted by `send`), `raise kind`

Faults (`Fault`): the client disconnects (`disconnect k`), the body producer raises at its
item `k` (`producer k`), the `k`-th call of `send` / `start_response` raises (`send k`).
Where Python raises, the trace ends with `raise`; nothing is totalised.  Core Lean only.
-/
import BaizeVerif.Model.Wire
import BaizeVerif.Model.Cookie
import BaizeVerif.Model.Headers
import BaizeVerif.Model.SSE
import BaizeVerif.Model.FileResponse
import BaizeVerif.Gen.Gateway
import BaizeVerif.Gen.SSE

namespace Baize.Gateway

open Cookie (Str dictSet dictGet)
open Headers (Hdrs)

abbrev Bytes := List Nat

/-! ### Traces -/

inductive WEv where
  | startResponse (status : Str) (headers : List (Str × Str))
  | yield (data : Bytes)
  | raise (kind : String)
  deriving Repr, DecidableEq

inductive AEv where
  | start (status : Nat) (headers : List (Bytes × Bytes))
  | body (data : Bytes) (more : Bool)
  | zerocopy (offset count : Option Nat) (more : Bool)
  | raise (kind : String)
  deriving Repr, DecidableEq

inductive Iface where
  | wsgi
  | asgi
  deriving Repr, DecidableEq

/-! ### Recipes: a response class with its constructor arguments, and the request -/

/-- what `json.dumps` / the caller hands to `render` -/
inductive Content where
  | text (s : Str)        -- `str` content: encoded with the charset
  | bytes (b : Bytes)     -- `bytes` content: sent as it is
  | json (text : Str)     -- the text `json.dumps(content, …)` returns (opaque stdlib result)
  deriving Repr, DecidableEq

inductive SmallCls where
  | plain
  | html
  | json
  deriving Repr, DecidableEq

/-- one step of a body producer: it yields a chunk, or raises -/
inductive Item where
  | chunk (b : Bytes)
  | boom (kind : String)
  deriving Repr, DecidableEq

/-- `FileResponse(filepath, headers, content_type, download_name, stat_result, chunk_size)` and
the request it is called with.  `[]` stands for an absent / empty (falsy) text argument. -/
structure FileSpec where
  headOnly : Bool
  range : Option Bytes
  ifRange : Option Bytes
  chunk : Nat
  ctArg : Str
  /-- `mimetypes.guess_type(download_name or basename)[0]` (opaque stdlib result; `[]` = `None`) -/
  guessed : Str
  downloadName : Str
  /-- `os.path.basename(filepath)` -/
  baseName : Str
  stat : FileResponse.Stat
  /-- the scope advertises `http.response.zerocopysend` -/
  zerocopy : Bool
  deriving Repr

inductive Kind where
  | empty                                                     -- `Response(status, headers)`
  | small (cls : SmallCls) (mediaType charset : Str) (content : Content)   -- `[]` = argument not given
  | redirect (url : Str)
  | stream (contentType : Option Str) (items : List Item)
  | sse (charset : Option Str) (events : List SSE.Event)
  | file (f : FileSpec)
  deriving Repr

structure Recipe where
  status : Nat
  /-- the `headers=` mapping, as its items -/
  headers : List (Str × Str)
  /-- cookies set on the response before it is called -/
  cookies : List Cookie.CookieRec
  kind : Kind
  deriving Repr

inductive Fault where
  | none
  /-- WSGI: the server takes `k` chunks and then closes the iterable; ASGI: the disconnect
  message becomes available to `receive` once `k` messages have been sent -/
  | disconnect (k : Nat)
  /-- the producer raises instead of delivering its item number `k` -/
  | producer (k : Nat)
  /-- the call number `k` of `send` (ASGI) / `start_response` (WSGI) raises -/
  | send (k : Nat)
  deriving Repr, DecidableEq

def boomKind : String := "Boom"
def sendFaultKind : String := "OSError"

/-! ### Text helpers -/

def dec (n : Nat) : Str := FileResponse.dec n

/-- `s.startswith(p)` -/
def startsWith : Str → Str → Bool
  | _, [] => true
  | [], _ :: _ => false
  | c :: cs, p :: ps => c == p && startsWith cs ps

/-- `s.encode("latin-1")`; `none` = UnicodeEncodeError -/
def encodeLatin1 (s : Str) : Option Bytes := if s.all (· < 256) then some s else none

/-- `s.encode("ascii")`; `none` = UnicodeEncodeError -/
def encodeAscii (s : Str) : Option Bytes := if s.all (· < 128) then some s else none

inductive Codec where
  | utf8
  | latin1
  | ascii
  deriving Repr, DecidableEq

def asciiLower (s : Str) : Str := s.map fun c => if 65 ≤ c ∧ c ≤ 90 then c + 32 else c

/-- the codec names the model knows (after ASCII lower-casing); any other name is a
`LookupError` in the model — the generator uses only these and one unknown name -/
def codecOf (name : Str) : Option Codec :=
  let n := asciiLower name
  if n = Cookie.strCps "utf-8" ∨ n = Cookie.strCps "utf8" then some .utf8
  else if n = Cookie.strCps "latin-1" ∨ n = Cookie.strCps "latin1" ∨ n = Cookie.strCps "iso-8859-1" then some .latin1
  else if n = Cookie.strCps "ascii" ∨ n = Cookie.strCps "us-ascii" then some .ascii
  else none

/-- `text.encode(charset)` -/
def encodeWith (charset text : Str) : Except String Bytes :=
  match codecOf charset with
  | none => .error "LookupError"
  | some .utf8 => match Headers.utf8Encode text with | some b => .ok b | none => .error "UnicodeEncodeError"
  | some .latin1 => match encodeLatin1 text with | some b => .ok b | none => .error "UnicodeEncodeError"
  | some .ascii => match encodeAscii text with | some b => .ok b | none => .error "UnicodeEncodeError"

/-! ### The status line (WSGI) -/

/-- `StatusStringMapping[status]`: the table entry, else the default factory -/
def statusLine (code : Nat) : Str :=
  match Gen.Gateway.httpStatusTable.lookup code with
  | some phrase => dec code ++ Gen.Gateway.statusKnownSep ++ phrase
  | none => dec code ++ Gen.Gateway.statusFallbackSuffix

/-! ### `list_headers` -/

/-- `list_headers(as_bytes=False)` -/
def listHeadersStr (st : Hdrs) (cookies : List Cookie.CookieRec) : List (Str × Str) :=
  st ++ cookies.map fun c => (Gen.Gateway.setCookieNameStr, Cookie.line c)

def encodePairs : List (Str × Str) → Option (List (Bytes × Bytes))
  | [] => some []
  | (k, v) :: rest =>
    match encodeLatin1 k, encodeLatin1 v, encodePairs rest with
    | some k', some v', some r => some ((k', v') :: r)
    | _, _, _ => none

def encodeCookies : List Cookie.CookieRec → Option (List (Bytes × Bytes))
  | [] => some []
  | c :: rest =>
    match encodeLatin1 (Cookie.line c), encodeCookies rest with
    | some l, some r => some ((Gen.Gateway.setCookieNameBytes, l) :: r)
    | _, _ => none

/-- `list_headers(as_bytes=True)`; `none` = UnicodeEncodeError (key/value or cookie line not Latin-1; `Cookie.__bytes__` encodes as Latin-1
like every other header since the C04 repair) -/
def listHeadersBytes (st : Hdrs) (cookies : List Cookie.CookieRec) : Option (List (Bytes × Bytes)) :=
  match encodePairs st, encodeCookies cookies with
  | some a, some b => some (a ++ b)
  | _, _ => none

/-! ### Construction (`__init__`) -/

/-- `self.headers[k] = v` -/
def setH (st : Hdrs) (k v : Str) : Except String Hdrs :=
  match Headers.setItem st k v with
  | .ok s => .ok s
  | .error _ => .error Gen.Headers.controlException

/-- `self.headers.update(pairs)` -/
def updateH (st : Hdrs) (kvs : List (Str × Str)) : Except String Hdrs :=
  match Headers.update st kvs with
  | (s, none) => .ok s
  | (_, some _) => .error Gen.Headers.controlException

/-- `k in self.headers` -/
def hasH (st : Hdrs) (k : Str) : Bool := (Headers.getItem st k).isSome

def ifaceSel {α : Type} (i : Iface) (w a : α) : α := match i with | .wsgi => w | .asgi => a

/-- `{**self.required_headers, **headers}` then `headers[K] += f"; charset={charset}"`
(plain `dict`s: keys are case-sensitive here) -/
def sseCtorHeaders (i : Iface) (user : List (Str × Str)) (charset : Str) : List (Str × Str) :=
  let req := ifaceSel i Gen.SSE.wsgiRequiredHeaders Gen.SSE.asgiRequiredHeaders
  let suf := ifaceSel i Gen.SSE.wsgiCharsetSuffix Gen.SSE.asgiCharsetSuffix
  let merged := user.foldl (fun d kv => dictSet d kv.1 kv.2) req
  merged.map fun kv => if kv.1 = suf.1 then (kv.1, kv.2 ++ suf.2 ++ charset) else kv

/-- the characters `quote(name)` keeps: always-safe and `safe=` -/
def nameSafeByte (b : Nat) : Bool :=
  Gen.Headers.urlAlwaysSafe.contains b || (b < 128 && Gen.Gateway.dispositionSafe.contains b)

def pctEncodeName (b : Nat) : Str :=
  if nameSafeByte b then [b] else [37, Headers.hexDigit (b / 16), Headers.hexDigit (b % 16)]

/-- `quote(download_name)`; `none` = UnicodeEncodeError (lone surrogate) -/
def quoteName (s : Str) : Option Str := (Headers.utf8Encode s).map fun bs => bs.flatMap pctEncodeName

/-- the ASCII fallback put into `filename="…"` -/
def fallbackChar (c : Nat) : Str :=
  if Gen.Gateway.fallbackLo ≤ c ∧ c ≤ Gen.Gateway.fallbackHi ∧ ¬ Gen.Gateway.fallbackExcluded.contains c then [c]
  else Gen.Gateway.fallbackReplacement

def fallbackName (s : Str) : Str := s.flatMap fallbackChar

/-- `content_type or guess_type(...)[0] or "application/octet-stream"` -/
def fileContentType (i : Iface) (f : FileSpec) : Str :=
  if f.ctArg ≠ [] then f.ctArg
  else if f.guessed ≠ [] then f.guessed
  else ifaceSel i Gen.Gateway.fileDefaultType_wsgi Gen.Gateway.fileDefaultType_asgi

/-- the Content-Disposition entry of `generate_common_headers` (`none` = UnicodeEncodeError) -/
def disposition (ct : Str) (f : FileSpec) : Option (List (Str × Str)) :=
  if f.downloadName ≠ [] ∨ ct = Gen.Gateway.dispositionType then
    let name := if f.downloadName ≠ [] then f.downloadName else f.baseName
    match quoteName name with
    | none => none
    | some q =>
      some [(Gen.Gateway.dispositionName,
             Gen.Gateway.dispositionPrefix ++ fallbackName name ++ Gen.Gateway.dispositionMiddle ++ q)]
  else some []

/-- the mapping after `__init__`; `error` = the constructor raises (no response object exists) -/
def construct (i : Iface) (r : Recipe) : Except String Hdrs :=
  match r.kind with
  | .empty => .ok (Headers.initHeaders r.headers)
  | .small _ _ _ _ => .ok (Headers.initHeaders r.headers)
  | .redirect url =>
    match Headers.iriToUri url with
    | none => .error "UnicodeEncodeError"
    | some u => setH (Headers.initHeaders r.headers)
        (ifaceSel i Gen.Headers.redirectHeader_wsgi Gen.Headers.redirectHeader_asgi) u
  | .stream ct _ =>
    setH (Headers.initHeaders r.headers)
      (ifaceSel i Gen.Gateway.streamTypeKey_wsgi Gen.Gateway.streamTypeKey_asgi)
      (ct.getD (ifaceSel i Gen.Gateway.streamDefaultType_wsgi Gen.Gateway.streamDefaultType_asgi))
  | .sse charset _ =>
    .ok (Headers.initHeaders (sseCtorHeaders i r.headers
      (charset.getD (ifaceSel i Gen.Gateway.sseDefaultCharset_wsgi Gen.Gateway.sseDefaultCharset_asgi))))
  | .file f =>
    match disposition (fileContentType i f) f with
    | none => .error "UnicodeEncodeError"
    | some d => updateH (Headers.initHeaders r.headers) (FileResponse.commonHeaders f.stat ++ d)

/-- `status_code` of the object: `FileResponse.__init__` does not take one -/
def statusOf (r : Recipe) : Nat :=
  match r.kind with
  | .file _ => 200
  | _ => r.status

/-! ### `SmallResponse.__call__` -/

def mediaTypeOf (i : Iface) : SmallCls → Str
  | .plain => ifaceSel i Gen.Gateway.mediaType_PlainTextResponse_wsgi Gen.Gateway.mediaType_PlainTextResponse_asgi
  | .html => ifaceSel i Gen.Gateway.mediaType_HTMLResponse_wsgi Gen.Gateway.mediaType_HTMLResponse_asgi
  | .json => ifaceSel i Gen.Gateway.mediaType_JSONResponse_wsgi Gen.Gateway.mediaType_JSONResponse_asgi

/-- `self.render(self.content)` -/
def render (charset : Str) : Content → Except String Bytes
  | .text s => encodeWith charset s
  | .bytes b => .ok b
  | .json t => encodeWith charset t

/-- the value stored under content-type: `text/…` types get the charset appended -/
def smallContentType (i : Iface) (mediaType charset : Str) : Str :=
  if startsWith mediaType (ifaceSel i Gen.Gateway.textPrefix_wsgi Gen.Gateway.textPrefix_asgi) then
    mediaType ++ ifaceSel i Gen.Gateway.charsetJoin_wsgi Gen.Gateway.charsetJoin_asgi ++ charset
  else mediaType

def smallLengthName (i : Iface) : Str := ifaceSel i Gen.Gateway.smallLengthName_wsgi Gen.Gateway.smallLengthName_asgi
def smallTypeName (i : Iface) : Str := ifaceSel i Gen.Gateway.smallTypeName_wsgi Gen.Gateway.smallTypeName_asgi

/-- `if body and "content-length" not in self.headers: self.headers["content-length"] = str(len(body))` -/
def smallLengthRule (i : Iface) (st : Hdrs) (body : Bytes) : Except String Hdrs :=
  if body ≠ [] ∧ hasH st (smallLengthName i) = false then setH st (smallLengthName i) (dec body.length) else .ok st

/-- `if content_type and "content-type" not in self.headers: …` -/
def smallTypeRule (i : Iface) (st : Hdrs) (mediaType charset : Str) : Except String Hdrs :=
  if mediaType ≠ [] ∧ hasH st (smallTypeName i) = false then
    setH st (smallTypeName i) (smallContentType i mediaType charset)
  else .ok st

/-- the two header rules; the result is the mapping handed to `list_headers` -/
def smallHeaders (i : Iface) (st : Hdrs) (mediaType charset : Str) (body : Bytes) : Except String Hdrs :=
  match smallLengthRule i st body with
  | .error k => .error k
  | .ok st1 => smallTypeRule i st1 mediaType charset

/-! ### What a call intends to emit (no fault): status, header mapping / raw header list, body plan -/

/-- the body part of a response -/
inductive BodyPlan where
  | chunks (cs : List Bytes)            -- WSGI: the chunks of the iterable; ASGI small/empty: one body
  | producer (items : List Item)         -- a streaming response over a producer
  | events (evs : List FileResponse.Ev)  -- ASGI file: the events after the start
  deriving Repr

/-- what the call hands to `start_response` / `send_http_start` -/
structure Planned where
  status : Nat
  /-- `some st`: `self.list_headers(...)` over this mapping; `none`: the raw pairs below (range-error path) -/
  mapping : Option Hdrs
  raw : List (Str × Str)
  body : BodyPlan
  deriving Repr

/-- the chunk a finite producer of events makes the relay yield, one per event -/
def sseItems (charset : Str) (events : List SSE.Event) : List Item :=
  events.map fun e =>
    match encodeWith charset (SSE.encodeEvent e) with
    | .ok b => .chunk b
    | .error k => .boom k

def filePlan (i : Iface) (f : FileSpec) : FileResponse.Plan :=
  match i with
  | .wsgi => FileResponse.wsgiPlan f.range f.ifRange f.stat
  | .asgi =>
    FileResponse.asgiPlan
      ((match f.range with | some v => [(FileResponse.kRange, v)] | none => []) ++
       (match f.ifRange with | some v => [(FileResponse.kIfRange, v)] | none => [])) f.stat

/-- the assignments `self.headers[...] = ...` of the three handlers, in order -/
def handlerHeaders (i : Iface) (ct boundary : Str) (st : FileResponse.Stat) : FileResponse.Plan → List (Str × Str)
  | .all => [(FileResponse.hContentType, ct), (FileResponse.hContentLength, dec st.size)]
  | .single s e =>
    [(FileResponse.hContentRange,
        FileResponse.renderTemplate { start := s, stop := e, maxSize := st.size }
          (ifaceSel i Gen.FileResponse.contentRangeTemplateWsgi Gen.FileResponse.contentRangeTemplateAsgi)),
     (FileResponse.hContentType, ct), (FileResponse.hContentLength, dec (e - s))]
  | .several rs =>
    [(FileResponse.hContentType,
        FileResponse.renderTemplate { boundary := boundary }
          (ifaceSel i Gen.FileResponse.multipartTypeTemplateWsgi Gen.FileResponse.multipartTypeTemplateAsgi)),
     (FileResponse.hContentLength, dec (Gen.FileResponse.multipartContentLength boundary ct st.size rs))]
  | .error _ _ _ => []

def fileBoundary (i : Iface) : Str :=
  match i with
  | .wsgi => FileResponse.fixedBoundary Gen.FileResponse.boundaryAlphabetWsgi Gen.FileResponse.boundaryKWsgi
  | .asgi => FileResponse.fixedBoundary Gen.FileResponse.boundaryAlphabetAsgi Gen.FileResponse.boundaryKAsgi

def emptyBodyHeader (i : Iface) : Str := ifaceSel i Gen.Headers.emptyBodyHeader_wsgi Gen.Headers.emptyBodyHeader_asgi
def emptyBodyValue (i : Iface) : Str := ifaceSel i Gen.Headers.emptyBodyValue_wsgi Gen.Headers.emptyBodyValue_asgi
def smallDefaultCharset (i : Iface) : Str := ifaceSel i Gen.Gateway.defaultCharset_wsgi Gen.Gateway.defaultCharset_asgi
def sseDefaultCharset (i : Iface) : Str := ifaceSel i Gen.Gateway.sseDefaultCharset_wsgi Gen.Gateway.sseDefaultCharset_asgi

/-- `media_type or self.media_type`; JSONResponse.__init__ forwards neither media_type nor charset -/
def smallMediaType (i : Iface) (cls : SmallCls) (mediaType : Str) : Str :=
  if cls = .json ∨ mediaType = [] then mediaTypeOf i cls else mediaType

/-- `charset or self.charset` -/
def smallCharset (i : Iface) (cls : SmallCls) (charset : Str) : Str :=
  if cls = .json ∨ charset = [] then smallDefaultCharset i else charset

/-- `Response.__call__`: `self.headers["content-length"] = "0"`, one empty chunk -/
def planEmpty (i : Iface) (status : Nat) (st : Hdrs) : Except String Planned :=
  match setH st (emptyBodyHeader i) (emptyBodyValue i) with
  | .error k => .error k
  | .ok st1 => .ok ⟨status, some st1, [], .chunks [Gen.Gateway.emptyBodyChunk_wsgi]⟩

/-- `SmallResponse.__call__` -/
def planSmall (i : Iface) (status : Nat) (st : Hdrs) (cls : SmallCls) (mediaType charset : Str) (content : Content) :
    Except String Planned :=
  match render (smallCharset i cls charset) content with
  | .error k => .error k
  | .ok body =>
    match smallHeaders i st (smallMediaType i cls mediaType) (smallCharset i cls charset) body with
    | .error k => .error k
    | .ok st1 => .ok ⟨status, some st1, [], .chunks [body]⟩

/-- the body of a file answer: chunks of the iterable (WSGI) / events after the start (ASGI) -/
def fileBody (i : Iface) (f : FileSpec) (p : FileResponse.Plan) : BodyPlan :=
  let ct := fileContentType i f
  let file := FileResponse.fixture f.stat.size
  match i with
  | .wsgi => .chunks (FileResponse.wsgiRespond f.headOnly ct (fileBoundary i) f.chunk f.stat file p).chunks
  | .asgi => .events (FileResponse.asgiEvents f.zerocopy f.headOnly ct (fileBoundary i) f.chunk f.stat file p).tail

/-- `FileResponse.__call__` with its three handlers and the range-error branch -/
def planFile (i : Iface) (st : Hdrs) (f : FileSpec) : Except String Planned :=
  match filePlan i f with
  | .error status hdrs body => .ok ⟨status, none, hdrs, fileBody i f (.error status hdrs body)⟩
  | p =>
    match updateH st (handlerHeaders i (fileContentType i f) (fileBoundary i) f.stat p) with
    | .error k => .error k
    | .ok st1 => .ok ⟨(match p with | .all => 200 | _ => 206), some st1, [], fileBody i f p⟩

/-- everything `__call__` does before its first `start_response` / `send`; `error` = it raises there -/
def plan (i : Iface) (r : Recipe) (st : Hdrs) : Except String Planned :=
  match r.kind with
  | .empty => planEmpty i r.status st
  | .redirect _ => planEmpty i r.status st
  | .small cls mediaType charset content => planSmall i r.status st cls mediaType charset content
  | .stream _ items => .ok ⟨r.status, some st, [], .producer items⟩
  | .sse charset events => .ok ⟨r.status, some st, [], .producer (sseItems (charset.getD (sseDefaultCharset i)) events)⟩
  | .file f => planFile i st f

/-! ### WSGI -/

/-- the header list handed to `start_response` -/
def wsgiHeaders (r : Recipe) (p : Planned) : List (Str × Str) :=
  match p.mapping with
  | some st => listHeadersStr st r.cookies
  | none => p.raw                       -- `[*(exception.headers or {}).items()]`

/-- items of a producer as the iterable yields them (`yield from`): chunks, until it raises -/
def wsgiItems : List Item → List WEv
  | [] => []
  | .chunk b :: rest => .yield b :: wsgiItems rest
  | .boom k :: _ => [.raise k]

def wsgiBody : BodyPlan → List WEv
  | .chunks cs => cs.map .yield
  | .producer items => wsgiItems items
  | .events _ => []

/-- `Response.__call__` calls `start_response` when the application is called; every other
class is a generator function and calls it when the server asks for the first item -/
def eagerStart : Kind → Bool
  | .empty | .redirect _ => true
  | _ => false

/-- the producer with the fault "raises at item k" injected -/
def faultItems (k : Nat) (items : List Item) : List Item :=
  if k ≤ items.length then items.take k ++ [.boom boomKind] else items

def withProducerFault (fault : Fault) (p : Planned) : Planned :=
  match fault, p.body with
  | .producer k, .producer items => { p with body := .producer (faultItems k items) }
  | _, _ => p

/-- the trace of calling the response and iterating the result, under a fault -/
def wsgiCall (fault : Fault) (r : Recipe) (st : Hdrs) : List WEv :=
  match plan .wsgi r st with
  | .error k => if !eagerStart r.kind ∧ fault = .disconnect 0 then [] else [.raise k]
  | .ok p0 =>
    let p := withProducerFault fault p0
    let start := WEv.startResponse (statusLine p.status) (wsgiHeaders r p)
    match fault with
    | .send 0 => [.raise sendFaultKind]        -- start_response raises: the exception leaves the call / the generator
    | .disconnect k =>
      -- the server takes k items and closes the iterable; a generator that was never
      -- started has not called start_response
      if !eagerStart r.kind ∧ k = 0 then [] else start :: (wsgiBody p.body).take k
    | _ => start :: wsgiBody p.body

inductive Result (α : Type) where
  | ctor (kind : String)        -- the constructor raised: there is no response
  | trace (t : List α)
  deriving Repr, DecidableEq

/-- what `open(self.filepath, "rb")` raises when the file has gone since the response was constructed -/
def fileGoneKind : String := "FileNotFoundError"

/-- does the call open the file?  Every handler does, straight after its start event - except for a HEAD
request and on the range-error path, which never touch the file. -/
def opensFile (i : Iface) (r : Recipe) (st : Hdrs) : Bool :=
  match r.kind with
  | .file f => !f.headOnly && (match plan i r st with | .ok p => p.mapping.isSome | .error _ => false)
  | _ => false

/-- the "producer" of a file answer is the file: the fault "the producer raises" is the file that cannot be
opened any more -/
def fileGone (fault : Fault) (i : Iface) (r : Recipe) (st : Hdrs) : Bool :=
  (match fault with | .producer _ => true | _ => false) && opensFile i r st

/-- the conversation when the file cannot be opened: what came before the `open` (the start), then the error -/
def goneW : List WEv → List WEv
  | [] => []
  | .raise k :: rest => .raise k :: rest        -- the call failed before it got to the file
  | e :: _ => [e, .raise fileGoneKind]
def goneA : List AEv → List AEv
  | [] => []
  | .raise k :: rest => .raise k :: rest
  | e :: _ => [e, .raise fileGoneKind]

def wsgiRun (fault : Fault) (r : Recipe) : Result WEv :=
  match construct .wsgi r with
  | .error k => .ctor k
  | .ok st => .trace (if fileGone fault .wsgi r st then goneW (wsgiCall .none r st) else wsgiCall fault r st)

/-! ### ASGI -/

/-- the header list of the start event; `none` = UnicodeEncodeError while it is built -/
def asgiHeaders (r : Recipe) (p : Planned) : Option (List (Bytes × Bytes)) :=
  match p.mapping with
  | some st => listHeadersBytes st r.cookies
  | none =>
    -- `[(k.lower().encode("latin-1"), v.encode("latin-1")) for k, v in (exception.headers or {}).items()]`
    encodePairs (p.raw.map fun kv => (if Gen.Gateway.asgiErrorLowersName then Headers.lower kv.1 else kv.1, kv.2))

def ofEv : FileResponse.Ev → AEv
  | .start s hs => .start s hs
  | .body d m => .body d m
  | .zerocopy o c m => .zerocopy o c m
  | .diverges => .raise "hang"

/-- a straight-line sequence of `await send(...)`: the first failing call ends it (every
`finally` on these paths only closes the file descriptor) -/
def runSends (failAt : Option Nat) (evs : List AEv) : List AEv :=
  match failAt with
  | none => evs
  | some k => if k < evs.length then evs.take k ++ [.raise sendFaultKind] else evs

inductive LoopEnd where
  | exhausted            -- StopAsyncIteration
  | closed               -- `while not self._client_closed` saw the flag
  | raised (kind : String)
  deriving Repr, DecidableEq

/-- `noticed = some j`: the watcher task has set `_client_closed` by the time of the loop test
that follows `j` chunk sends -/
def flagSet (noticed : Option Nat) (i : Nat) : Bool :=
  match noticed with
  | some j => j ≤ i
  | none => false

/-- the `while` loop of `StreamingResponse.__call__`; `i` chunks have been sent (so `i + 1`
calls of `send` were made) -/
def asgiLoop (failAt noticed : Option Nat) : Nat → List Item → List AEv × LoopEnd
  | i, items =>
    if flagSet noticed i then ([], .closed)
    else
      match items with
      | [] => ([], .exhausted)
      | .boom k :: _ => ([], .raised k)
      | .chunk c :: rest =>
        if failAt = some (i + 1) then ([], .raised sendFaultKind)
        else
          let r := asgiLoop failAt noticed (i + 1) rest
          (.body c true :: r.1, r.2)

/-- `StreamingResponse.__call__`: start; try the loop; finally cancel the watcher and close the
generator (no message is sent there); unless an exception is on its way, the final empty body -/
def asgiStreaming (failAt noticed : Option Nat) (status : Nat) (hdrs : List (Bytes × Bytes))
    (items : List Item) : List AEv :=
  if failAt = some 0 then [.raise sendFaultKind]
  else
    let r := asgiLoop failAt noticed 0 items
    .start status hdrs :: (r.1 ++
      match r.2 with
      | .raised k => [.raise k]
      | _ => if failAt = some (r.1.length + 1) then [.raise sendFaultKind] else [.body [] false])

/-- The loop test at which the flag is first seen when the disconnect message becomes available to
`receive` once `k` messages have been sent (message 0 is the start, message `i ≥ 1` is chunk `i - 1`;
loop test `j` is made after `j` chunks).  The watcher task (`wait_close`) is created after message 0
and runs only while `__call__` is suspended, that is inside a `send` (the server's `send` suspends,
the producers of the harness do not).  During the send of message `i ≥ 1` it finds the disconnect
iff `k ≤ i + 1` — the message counts once it is handed over — and sets the flag before that `send`
returns.  So loop test `j` sees the flag iff `j ≥ 1` and `k ≤ j + 1`; the first such test is
`max 1 (k - 1)`.  (The theorems hold for every test number, not only for those this rule produces.) -/
def noticedAt (k : Nat) : Nat := max 1 (k - 1)

def asgiCall (fault : Fault) (r : Recipe) (st : Hdrs) : List AEv :=
  match plan .asgi r st with
  | .error k => [.raise k]
  | .ok p0 =>
    let p := withProducerFault fault p0
    match asgiHeaders r p with
    | none => [.raise "UnicodeEncodeError"]
    | some hs =>
      let failAt := match fault with | .send k => some k | _ => none
      match p.body with
      | .chunks cs => runSends failAt (.start p.status hs :: cs.map fun c => .body c false)
      | .events evs => runSends failAt (.start p.status hs :: evs.map ofEv)
      | .producer items =>
        let noticed := match fault with | .disconnect k => some (noticedAt k) | _ => none
        asgiStreaming failAt noticed p.status hs items

def asgiRun (fault : Fault) (r : Recipe) : Result AEv :=
  match construct .asgi r with
  | .error k => .ctor k
  | .ok st => .trace (if fileGone fault .asgi r st then goneA (asgiCall .none r st) else asgiCall fault r st)

/-! ### Line protocol

    gw_wsgi|gw_asgi <fault> <status> <headers> <cookies> <kind> <kind arguments…>

    fault    n | d<k> | p<k> | s<k>
    headers  N | L:k:v:k:v…                                   (code points)
    cookies  N | name:value:domain:path:maxage:httponly:secure:samesite;…
    kind     empty
             small <plain|html|json> <media|x> <charset|x> <s:cps|b:bytes|j:cps>
             redirect <url>
             stream <content type|x> <c:bytes/c:bytes…|_>
             sse <charset|x> <events as in C19: e:..;i:..;r:..;d:.. / …|_>
             file <method> <range|x> <if-range|x> <chunk> <size> <ct|x> <guessed|x> <download|x> <basename>
                  <last-modified> <etag> <zerocopy 0|1>
-/

def parseFault (s : String) : Fault :=
  match s.toList with
  | 'd' :: r => .disconnect ((String.ofList r).toNat?.getD 0)
  | 'p' :: r => .producer ((String.ofList r).toNat?.getD 0)
  | 's' :: r => .send ((String.ofList r).toNat?.getD 0)
  | _ => .none

def parseCookie (s : String) : Option Cookie.CookieRec :=
  match s.splitOn ":" with
  | [n, v, d, p, ma, ho, se, ss] =>
    some ⟨Wire.parseNatList n, Wire.parseNatList v, none, ma.toInt?.getD (-1), Wire.parseNatList d,
      Wire.parseNatList p, ho == "1", se == "1", Wire.parseNatList ss⟩
  | _ => none

def parseCookies (s : String) : List Cookie.CookieRec :=
  if s == "N" || s == "" then [] else (s.splitOn ";").filterMap parseCookie

def optText (s : String) : Str := if s == "x" then [] else Wire.parseNatList s

def optArg (s : String) : Option Str := if s == "x" then none else some (Wire.parseNatList s)

def parseContent (s : String) : Content :=
  match s.splitOn ":" with
  | ["s", v] => .text (Wire.parseNatList v)
  | ["j", v] => .json (Wire.parseNatList v)
  | [_, v] => .bytes (Wire.parseNatList v)
  | _ => .bytes []

def parseItems (s : String) : List Item :=
  if s == "_" || s == "" then []
  else (s.splitOn "/").map fun t =>
    match t.splitOn ":" with
    | [_, v] => .chunk (Wire.parseNatList v)
    | _ => .chunk []

def parseEvents (s : String) : List SSE.Event :=
  (SSE.itemsOfArg s).filterMap fun it => match it with | .ev e => some e | .ping => none

def parseKind (args : List String) : Kind :=
  let a (i : Nat) : String := (args[i]?).getD "x"
  match a 0 with
  | "small" =>
    .small (match a 1 with | "html" => .html | "json" => .json | _ => .plain) (optText (a 2)) (optText (a 3))
      (parseContent (a 4))
  | "redirect" => .redirect (Wire.parseNatList (a 1))
  | "stream" => .stream (optArg (a 1)) (parseItems (a 2))
  | "sse" => .sse (optArg (a 1)) (parseEvents (a 2))
  | "file" =>
    .file { headOnly := a 1 == "HEAD", range := optArg (a 2), ifRange := optArg (a 3),
            chunk := (a 4).toNat?.getD 1, ctArg := optText (a 6), guessed := optText (a 7),
            downloadName := optText (a 8), baseName := Wire.parseNatList (a 9),
            stat := ⟨(a 5).toNat?.getD 0, Wire.parseNatList (a 10), Wire.parseNatList (a 11)⟩,
            zerocopy := a 12 == "1" }
  | _ => .empty

def parseRecipe (args : List String) : Fault × Recipe :=
  (parseFault ((args[0]?).getD "n"),
   { status := Wire.natArg args 1, headers := Headers.parsePairs ((args[2]?).getD "N"),
     cookies := parseCookies ((args[3]?).getD "N"), kind := parseKind (args.drop 4) })

def renderHeaderList (hs : List (Str × Str)) : String :=
  if hs.isEmpty then "-"
  else
    let items := hs.map fun (k, v) => Wire.renderNatList k ++ "=" ++ Wire.renderNatList v
    "&".intercalate (items.toArray.qsort (· < ·)).toList

def optNat : Option Nat → String
  | some n => toString n
  | none => "x"

def WEv.render : WEv → String
  | .startResponse s hs => "S:" ++ Wire.renderNatList s ++ ":" ++ renderHeaderList hs
  | .yield d => "Y:" ++ Wire.renderNatList d
  | .raise k => "X:" ++ k

def AEv.render : AEv → String
  | .start s hs => "S:" ++ toString s ++ ":" ++ renderHeaderList hs
  | .body d m => (if m then "B1:" else "B0:") ++ Wire.renderNatList d
  | .zerocopy o c m => (if m then "Z1:" else "Z0:") ++ optNat o ++ ":" ++ optNat c
  | .raise k => "X:" ++ k

def renderTrace (evs : List String) : String := if evs.isEmpty then "-" else " ".intercalate evs

def unsupported (r : Recipe) : Bool :=
  match r.kind with
  | .file f => f.chunk == 0
  | _ => false

def runWsgi (args : List String) : String :=
  let (fault, r) := parseRecipe args
  if unsupported r then "unsupported chunk_size 0" else
  match wsgiRun fault r with
  | .ctor k => "ctor " ++ k
  | .trace t => renderTrace (t.map WEv.render)

def runAsgi (args : List String) : String :=
  let (fault, r) := parseRecipe args
  if unsupported r then "unsupported chunk_size 0" else
  match asgiRun fault r with
  | .ctor k => "ctor " ++ k
  | .trace t => if t.any (· == .raise "hang") then "hang" else renderTrace (t.map AEv.render)

end Baize.Gateway
