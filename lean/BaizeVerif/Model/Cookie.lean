/-
Model of the cookie writer and reader of baize (C16, shared with C13).

  datastructures.py  `_cookie_legal_chars`, `_cookie_is_legal_key`,
                     `_cookie_translator`, `Cookie._quote`, `Cookie.__str__`
  responses.py       `BaseResponse.set_cookie`, `delete_cookie`
  requests.py        `HTTPConnection.cookies`
  http.cookies       `_unquote` (CPython 3.12 loop, transcribed: `unquote`)
  datetime/strftime  `httpDate` (UTC broken-down time of a POSIX timestamp,
                     "%a, %d %b %Y %H:%M:%S GMT" in the C locale)

Text is a list of code points.  Every table, separator and format literal is
`Gen.Cookie.*`, regenerated from the sources on every run.  There is no
time-zone parameter anywhere in this file: the date written by `set_cookie` is a
function of `now + expires` only — that *is* the property, and the harness runs
the real code under several process time zones against this model.
-/
import BaizeVerif.Model.Wire
import BaizeVerif.Gen.Cookie

namespace Baize.Cookie

abbrev Str := List Nat

/-! ### Writer: `Cookie._quote` -/

def isLegal (c : Nat) : Bool := Gen.Cookie.legalChars.contains c

/-- member of `_cookie_legal_chars + " ()/<=>?@[]{}"` (kept as is inside quotes) -/
def isUnescaped (c : Nat) : Bool := isLegal c || Gen.Cookie.unescapedExtra.contains c

/-- `"%03o" % n` for `n < 512` (three octal digits) -/
def octal3 (n : Nat) : Str := [48 + n / 64 % 8, 48 + n / 8 % 8, 48 + n % 8]

/-- explicit entry of the translator dict display; a later entry wins -/
def lookupOverride (c : Nat) : Option Str :=
  (Gen.Cookie.translatorOverrides.reverse.find? (fun p => p.1 == c)).map (·.2)

/-- `_cookie_translator` applied to one code point by `str.translate`: an
explicit override, else `"\\%03o" % n` for the code points below the bound that
are neither legal nor in the extra set, else (no dict entry) the character
itself — in particular every code point ≥ 256 is left unchanged. -/
def translate (c : Nat) : Str :=
  match lookupOverride c with
  | some s => s
  | none => if c < Gen.Cookie.escapeBound && !isUnescaped c then 92 :: octal3 c else [c]

/-- `_cookie_is_legal_key(value)`: `re.compile("[<legal>]+").fullmatch` -/
def isLegalKey (v : Str) : Bool := !v.isEmpty && v.all isLegal

/-- `Cookie._quote` -/
def quote (v : Str) : Str :=
  if isLegalKey v then v
  else Gen.Cookie.quoteOpen ++ v.flatMap translate ++ Gen.Cookie.quoteClose

/-! ### Reader: `http.cookies._unquote` (CPython 3.12) -/

def isOct (c : Nat) : Bool := 48 ≤ c && c ≤ 55

/-- `_OctalPatt = r"\\[0-3][0-7][0-7]"` matches at the head of the text -/
def octalAt : Str → Bool
  | 92 :: a :: b :: c :: _ => 48 ≤ a && a ≤ 51 && isOct b && isOct c
  | _ => false

/-- `_QuotePatt = r"[\\]."` matches at the head (`.` is anything but a newline) -/
def quoteAt : Str → Bool
  | 92 :: x :: _ => x != 10
  | _ => false

/-- `patt.search(s)`: offset of the leftmost match -/
def search (p : Str → Bool) : Str → Option Nat
  | [] => none
  | c :: cs => if p (c :: cs) then some 0 else (search p cs).map (· + 1)

/-- `int(s[j+1:j+4], 8)` -/
def octVal (a b c : Nat) : Nat := (a - 48) * 64 + (b - 48) * 8 + (c - 48)

/-- The `while 0 <= i < n` loop; the argument is `str[i:]`, the result the
concatenation of everything appended to `res` from here on.  `fuel` bounds the
number of iterations (each one consumes ≥ 2 characters). -/
def unquoteLoop : Nat → Str → Str
  | 0, s => s
  | fuel + 1, s =>
    if s.isEmpty then []
    else
      let o := search octalAt s
      let q := search quoteAt s
      if o.isNone && q.isNone then s                    -- neither matched: res.append(str[i:]); break
      else
        let j := o.getD 0
        let k := q.getD 0
        if q.isSome && (o.isNone || k < j) then            -- QuotePatt matched first
          s.take k ++ (s.drop (k + 1)).take 1 ++ unquoteLoop fuel (s.drop (k + 2))
        else                                               -- OctalPatt matched
          s.take j ++
            [octVal ((s.drop (j + 1)).headD 48) ((s.drop (j + 2)).headD 48) ((s.drop (j + 3)).headD 48)] ++
            unquoteLoop fuel (s.drop (j + 4))

/-- `http.cookies._unquote` -/
def unquote (s : Str) : Str :=
  if s.length < 2 then s
  else if s.head? != some 34 || s.getLast? != some 34 then s
  else
    let inner := (s.drop 1).dropLast
    unquoteLoop (inner.length + 1) inner

/-- A one-pass scanner equivalent to the loop (`Props/C16.unquote_eq_scan`):
`skip` characters are still to be dropped; at a backslash an octal escape wins,
then a quoted character (anything but newline), else the backslash is literal. -/
def scanAux : Nat → Str → Str
  | _, [] => []
  | skip + 1, _ :: cs => scanAux skip cs
  | 0, c :: cs =>
    if octalAt (c :: cs) then
      octVal (cs.headD 48) ((cs.drop 1).headD 48) ((cs.drop 2).headD 48) :: scanAux 3 cs
    else if quoteAt (c :: cs) then cs.headD 0 :: scanAux 1 cs
    else c :: scanAux 0 cs

/-! ### Reader: `HTTPConnection.cookies` -/

/-- `str.isspace` for one code point (what `str.strip()` removes) -/
def isSpace (c : Nat) : Bool :=
  (9 ≤ c && c ≤ 13) || (28 ≤ c && c ≤ 32) || c == 133 || c == 160 || c == 5760 ||
  (8192 ≤ c && c ≤ 8202) || c == 8232 || c == 8233 || c == 8239 || c == 8287 || c == 12288

def lstrip : Str → Str
  | [] => []
  | c :: cs => if isSpace c then lstrip cs else c :: cs

def rstrip (s : Str) : Str := (lstrip s.reverse).reverse

def strip (s : Str) : Str := rstrip (lstrip s)

/-- `s.split(sep)` for a one-character separator: first piece and the others -/
def splitOn (sep : Nat) : Str → Str × List Str
  | [] => ([], [])
  | c :: cs =>
    if c = sep then ([], (splitOn sep cs).1 :: (splitOn sep cs).2)
    else (c :: (splitOn sep cs).1, (splitOn sep cs).2)

def pieces (sep : Nat) (s : Str) : List Str := (splitOn sep s).1 :: (splitOn sep s).2

/-- `s.split(sep, 1)` when `sep in s`, else `none` -/
def splitFirst (sep : Nat) : Str → Option (Str × Str)
  | [] => none
  | c :: cs =>
    if c = sep then some ([], cs)
    else match splitFirst sep cs with
      | some (a, b) => some (c :: a, b)
      | none => none

def chunkSep : Nat := Gen.Cookie.readerChunkSep.headD 0
def pairSepChar : Nat := Gen.Cookie.readerPairSep.headD 0

/-- what one `;`-chunk contributes: `none` (skipped) or `(key, value)` -/
def chunkEntry (chunk : Str) : Option (Str × Str) :=
  if chunk.isEmpty then none
  else
    let kv := match splitFirst pairSepChar chunk with
      | some (k, v) => (k, v)
      | none => ([], chunk)
    let k := strip kv.1
    let v := strip kv.2
    if k.isEmpty && v.isEmpty then none else some (k, unquote v)

/-- `d[k] = v` on an insertion-ordered dict -/
def dictSet : List (Str × Str) → Str → Str → List (Str × Str)
  | [], k, v => [(k, v)]
  | (k', v') :: t, k, v => if k' = k then (k, v) :: t else (k', v') :: dictSet t k v

def dictGet : List (Str × Str) → Str → Option Str
  | [], _ => none
  | (k', v') :: t, k => if k' = k then some v' else dictGet t k

def addChunk (d : List (Str × Str)) (chunk : Str) : List (Str × Str) :=
  match chunkEntry chunk with
  | none => d
  | some (k, v) => dictSet d k v

/-- `request.cookies` for the given `Cookie:` header text -/
def cookiesOf (hdr : Str) : List (Str × Str) := (pieces chunkSep hdr).foldl addChunk []

/-! ### Dates -/

/-- proleptic Gregorian civil date of a day number (days since 1970-01-01).
Years are counted from 1 March inside a 400-year era (146097 days): the era
splits exactly into centuries of 36524 days (the fourth one day longer), a
century into 4-year groups of 1461 days, a group into years of 365 days (the
fourth one day longer); month and day from the day of the March-based year. -/
def civilFromDays (z0 : Int) : Int × Int × Int :=
  let z := z0 + 719468
  let era := z / 146097
  let doe := z - era * 146097
  let c := min (doe / 36524) 3
  let r := doe - c * 36524
  let q := r / 1461
  let r4 := r - q * 1461
  let n1 := min (r4 / 365) 3
  let doy := r4 - n1 * 365
  let yoe := c * 100 + q * 4 + n1
  let mp := (5 * doy + 2) / 153
  let d := doy - (153 * mp + 2) / 5 + 1
  let m := if mp < 10 then mp + 3 else mp - 9
  let y := yoe + era * 400
  (if m ≤ 2 then y + 1 else y, m, d)

/-- day number of a civil date -/
def daysFromCivil (y0 m d : Int) : Int :=
  let y := if m ≤ 2 then y0 - 1 else y0
  let era := y / 400
  let yoe := y - era * 400
  let mp := if m > 2 then m - 3 else m + 9
  let doy := (153 * mp + 2) / 5 + d - 1
  let doe := yoe * 365 + yoe / 4 - yoe / 100 + doy
  era * 146097 + doe - 719468

def digitsVal (ds : Str) : Nat := ds.foldl (fun a d => a * 10 + (d - 48)) 0

def decFuel : Nat → Nat → Str
  | 0, n => [48 + n % 10]
  | f + 1, n => if n < 10 then [48 + n] else decFuel f (n / 10) ++ [48 + n % 10]

/-- `str(n)` for a natural number -/
def decimal (n : Nat) : Str := decFuel n n

/-- `str(i)` for an integer -/
def intRepr (i : Int) : Str := if i < 0 then 45 :: decimal i.natAbs else decimal i.toNat

/-- two digits, zero padded (`%d`, `%H`, `%M`, `%S`; argument < 100) -/
def dec2 (n : Nat) : Str := [48 + n / 10 % 10, 48 + n % 10]

def weekdayNames : List Str :=
  [[77,111,110], [84,117,101], [87,101,100], [84,104,117], [70,114,105], [83,97,116], [83,117,110]]

def monthNames : List Str :=
  [[74,97,110], [70,101,98], [77,97,114], [65,112,114], [77,97,121], [74,117,110],
   [74,117,108], [65,117,103], [83,101,112], [79,99,116], [78,111,118], [68,101,99]]

/-- Monday = 0 (`datetime.weekday()`); 1970-01-01 was a Thursday -/
def weekdayIdx (days : Int) : Nat := ((days + 3) % 7).toNat

/-- `datetime.fromtimestamp(t, tz=utc).strftime("%a, %d %b %Y %H:%M:%S GMT")`
(C locale; glibc prints `%Y` without padding) -/
def httpDate (t : Int) : Str :=
  let days := t / 86400
  let sod := (t % 86400).toNat
  let ymd := civilFromDays days
  (weekdayNames.getD (weekdayIdx days) []) ++ [44, 32] ++ dec2 ymd.2.2.toNat ++ [32] ++
    (monthNames.getD (ymd.2.1.toNat - 1) []) ++ [32] ++ decimal ymd.1.toNat ++ [32] ++
    dec2 (sod / 3600) ++ [58] ++ dec2 (sod / 60 % 60) ++ [58] ++ dec2 (sod % 60) ++ [32, 71, 77, 84]

def monthIndex (n : Str) : Option Nat :=
  let i := monthNames.idxOf n
  if i < 12 then some (i + 1) else none

def isDigit (c : Nat) : Bool := 48 ≤ c && c ≤ 57

def spanDigits : Str → Str × Str
  | [] => ([], [])
  | c :: cs => if isDigit c then (c :: (spanDigits cs).1, (spanDigits cs).2) else ([], c :: cs)

/-- the instant (POSIX seconds) an IMF-fixdate denotes; the reading used by the
theorems to say what the emitted `expires` *means* -/
def parseHttpDate : Str → Option Int
  | _ :: _ :: _ :: 44 :: 32 :: d1 :: d2 :: 32 :: m1 :: m2 :: m3 :: 32 :: rest =>
    match (spanDigits rest).2 with
    | [32, h1, h2, 58, i1, i2, 58, s1, s2, 32, 71, 77, 84] =>
      match monthIndex [m1, m2, m3] with
      | some m =>
        if (spanDigits rest).1.isEmpty then none
        else
          some (daysFromCivil (digitsVal (spanDigits rest).1) m (digitsVal [d1, d2]) * 86400
            + digitsVal [h1, h2] * 3600 + digitsVal [i1, i2] * 60 + digitsVal [s1, s2])
      | none => none
    | _ => none
  | _ => none

/-- timestamps `datetime` can represent: years 1 … 9999 -/
def minTimestamp : Int := -62135596800
def maxTimestamp : Int := 253402300799

/-! ### Writer: `Cookie.__str__`, `set_cookie`, `delete_cookie` -/

structure CookieRec where
  name : Str
  value : Str
  /-- the `expires` datetime as a POSIX timestamp (built in UTC by `set_cookie`) -/
  expires : Option Int
  maxAge : Int
  /-- `None` and `""` are both falsy: the empty text stands for either -/
  domain : Str
  path : Str
  httponly : Bool
  secure : Bool
  samesite : Str
  deriving Repr, DecidableEq

def strCps (s : String) : Str := s.toList.map Char.toNat

def forcesSecure (samesite : Str) : Bool := (Gen.Cookie.secureSamesite.map strCps).contains samesite

/-- the `name=value` part -/
def pair (c : CookieRec) : Str := quote c.name ++ Gen.Cookie.pairSep ++ quote c.value

/-- the parts appended after the pair, in the order of `__str__` -/
def attrs (c : CookieRec) : List Str :=
  (match c.expires with
    | some t => [Gen.Cookie.expiresPrefix ++ httpDate t]
    | none => []) ++
  (if c.maxAge > Gen.Cookie.maxAgeBound then [Gen.Cookie.maxAgePrefix ++ intRepr c.maxAge] else []) ++
  (if c.domain.isEmpty then [] else [Gen.Cookie.domainPrefix ++ c.domain]) ++
  (if c.path.isEmpty then [] else [Gen.Cookie.pathPrefix ++ c.path]) ++
  (if c.httponly then [Gen.Cookie.httponlyText] else []) ++
  (if c.secure || forcesSecure c.samesite then [Gen.Cookie.secureText] else []) ++
  [Gen.Cookie.samesitePrefix ++ c.samesite]

/-- `sep.join(parts)` for a non-empty list given as head and tail -/
def joinWith (sep : Str) : Str → List Str → Str
  | p, [] => p
  | p, q :: qs => p ++ sep ++ joinWith sep q qs

/-- `str(cookie)` -/
def line (c : CookieRec) : Str := joinWith Gen.Cookie.joiner (pair c) (attrs c)

/-- `BaseResponse.set_cookie` at clock reading `now`: the appended cookie, or
`none` when `datetime.fromtimestamp` raises ValueError (year outside 1 … 9999) -/
def setCookie (now : Int) (name value : Str) (maxAge : Int) (expires : Option Int)
    (path domain : Str) (secure httponly : Bool) (samesite : Str) : Option CookieRec :=
  match expires with
  | none => some ⟨name, value, none, maxAge, domain, path, httponly, secure, samesite⟩
  | some e =>
    let t := now + e
    if minTimestamp ≤ t ∧ t ≤ maxTimestamp then
      some ⟨name, value, some t, maxAge, domain, path, httponly, secure, samesite⟩
    else none

/-- `BaseResponse.delete_cookie` (the `value` argument is not forwarded) -/
def deleteCookie (now : Int) (name : Str) (path domain : Str) (secure httponly : Bool)
    (samesite : Str) : Option CookieRec :=
  setCookie now name [] Gen.Cookie.deleteMaxAge (some Gen.Cookie.deleteExpires) path domain secure
    httponly samesite

/-! ### A response's cookie list under a sequence of `set_cookie` / `delete_cookie` calls -/

/-- one call on a response (the attributes not named take their defaults) -/
inductive COp where
  | set (name value path : Str)
  | del (name path : Str)

/-- the record a call appends to `response.cookies` (`none`: the call raises) -/
def COp.record (now : Int) : COp → Option CookieRec
  | .set n v p => setCookie now n v (-1) none p [] false false (strCps Gen.Cookie.defaultSamesite)
  | .del n p => deleteCookie now n p [] false false (strCps Gen.Cookie.defaultSamesite)

/-- `response.cookies` after the calls, `none` when one of them raised: every call appends exactly one
record, nothing is ever withdrawn or merged -/
def applyCOps (now : Int) : List COp → Option (List CookieRec)
  | [] => some []
  | o :: os =>
    match o.record now with
    | none => none
    | some c => (applyCOps now os).map (c :: ·)

/-! ### Line protocol -/

open Wire in
def renderDict (d : List (Str × Str)) : String :=
  if d.isEmpty then "-" else " ".intercalate (d.map fun (k, v) => renderNatList k ++ "=" ++ renderNatList v)

def boolArg (args : List String) (i : Nat) : Bool := (args[i]?).getD "0" == "1"

def optIntArg (args : List String) (i : Nat) : Option Int :=
  match args[i]? with
  | some "none" => none
  | some s => s.toInt?
  | none => none

def renderLine : Option CookieRec → String
  | some c => "ok " ++ Wire.renderNatList (line c)
  | none => "crash ValueError"

/-- `ck_set <tz> <now> <name> <value> <max_age> <expires|none> <path> <domain> <secure> <httponly> <samesite>`
(the time zone is deliberately ignored) -/
def runSetCookie (args : List String) : String :=
  renderLine (setCookie (Wire.intArg args 1) (Wire.listArg args 2) (Wire.listArg args 3) (Wire.intArg args 4)
    (optIntArg args 5) (Wire.listArg args 6) (Wire.listArg args 7) (boolArg args 8) (boolArg args 9)
    (Wire.listArg args 10))

/-- `ck_delete <tz> <now> <name> <path> <domain> <secure> <httponly> <samesite>` -/
def runDeleteCookie (args : List String) : String :=
  renderLine (deleteCookie (Wire.intArg args 1) (Wire.listArg args 2) (Wire.listArg args 3) (Wire.listArg args 4)
    (boolArg args 5) (boolArg args 6) (Wire.listArg args 7))

def parseCOp (t : String) : Option COp :=
  match t.splitOn ":" with
  | ["s", n, v, p] => some (.set (Wire.parseNatList n) (Wire.parseNatList v) (Wire.parseNatList p))
  | ["d", n, p] => some (.del (Wire.parseNatList n) (Wire.parseNatList p))
  | _ => none

/-- `ck_seq <tz> <now> <call>…` with `<call>` = `s:<name>:<value>:<path>` | `d:<name>:<path>`: the Set-Cookie
lines of one response after the calls, in order, separated by `|` -/
def runSeq (args : List String) : String :=
  match (args.drop 2).mapM parseCOp with
  | none => "bad-op"
  | some ops =>
    match applyCOps (Wire.intArg args 1) ops with
    | none => "crash ValueError"
    | some cs => if cs.isEmpty then "ok -" else "ok " ++ "|".intercalate (cs.map fun c => Wire.renderNatList (line c))

def runQuote (args : List String) : String := Wire.renderNatList (quote (Wire.listArg args 0))
def runUnquote (args : List String) : String := Wire.renderNatList (unquote (Wire.listArg args 0))
def runCookies (args : List String) : String := renderDict (cookiesOf (Wire.listArg args 0))

/-- what a client sends back for one Set-Cookie line: the text before the first `;` -/
def clientPair (l : Str) : Str := (splitOn 59 l).1

/-- `ck_roundtrip <name>=<value> …`: set every cookie on one response, send all pairs
back in one `Cookie:` header, read `request.cookies` -/
def runRoundtrip (args : List String) : String :=
  let cookies := args.map fun a =>
    match a.splitOn "=" with
    | [n, v] => (Wire.parseNatList n, Wire.parseNatList v)
    | _ => ([], [])
  let lines := cookies.filterMap fun (n, v) =>
    (setCookie 0 n v (-1) none [47] [] false false (strCps Gen.Cookie.defaultSamesite)).map line
  let hdr := match lines.map clientPair with
    | [] => []
    | p :: ps => joinWith [59, 32] p ps
  renderDict (cookiesOf hdr)

end Baize.Cookie
