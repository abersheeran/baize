/-
`next_event()` and the helper's inner loop on arbitrary input: what one call can do to the decoder
(`rawEvent_cases`: all that the loop lemmas need of `rawEvent`), which events let the loop go on, and
the rule by which everything about `drain` is proved (`drain_rule`).  What a call does on a
well-formed stream is `step_preamble` / `step_part` / `step_data` in `MultipartForm`.
-/
import BaizeVerif.Lemmas.Multipart

namespace Baize.Multipart

/-- an event on which the helper continues its inner loop -/
def Consumes : Ev → Prop
  | .preamble _ => True
  | .field _ _ => True
  | .file _ _ _ => True
  | .data _ _ => True
  | _ => False

theorem headerEvent_cases (cs : Charset) (raw : Bytes) :
    Consumes (headerEvent cs raw) ∨ headerEvent cs raw = .malformed := by
  unfold headerEvent
  split
  · exact Or.inr rfl
  · simp only
    split
    · exact Or.inr rfl
    · split <;> exact Or.inl trivial

theorem rawEvent_cases (b : Bytes) (cs : Charset) (d : Dec) :
    rawEvent b cs d = (d, .needData) ∨
    (∃ i st ev, 0 < i ∧ i ≤ d.buf.length ∧ (Consumes ev ∨ ev = .malformed) ∧
      rawEvent b cs d = ({ d with st := st, buf := d.buf.drop i }, ev)) ∨
    (d.complete = true ∧ rawEvent b cs d = ({ d with st := .complete, buf := [] }, .epilogue d.buf)) := by
  unfold rawEvent
  split
  · unfold evPreamble
    split
    · rename_i s e f hs
      have := delimSearch_some_bounds hs
      refine Or.inr (Or.inl ⟨e, _, _, ?_, this.2, ?_, rfl⟩)
      · omega
      · exact Or.inl trivial
    · exact Or.inl rfl
  · rename_i hst
    unfold evPart
    split
    · rename_i s e hs
      have := blankLineSearch_some_bounds hs
      right; left
      simp only
      split
      · -- a malformed block: the model drops it, Python raises (for a line without colon before its `del`);
        -- nothing reads the decoder after the exception
        exact ⟨e, d.st, _, by omega, this.2, Or.inr rfl, by rw [hst]⟩
      · exact ⟨e, _, _, by omega, this.2, headerEvent_cases cs _, rfl⟩
    · exact Or.inl rfl
  · rename_i hst
    unfold evData
    rw [dataSearch_eq]
    split
    · rename_i s e f hs
      have := delimSearch_some_bounds hs
      refine Or.inr (Or.inl ⟨e, _, _, ?_, this.2, ?_, rfl⟩)
      · omega
      · exact Or.inl trivial
    · split
      · exact Or.inl rfl
      · refine Or.inr (Or.inl ⟨holdBack (marker b) d.buf, d.st, _, ?_, holdBack_le _ _, ?_, by rw [hst]⟩)
        · omega
        · exact Or.inl trivial
  · split
    · rename_i hc; exact Or.inr (Or.inr ⟨hc, rfl⟩)
    · exact Or.inl rfl
  · exact Or.inl rfl

theorem rawEvent_complete (b : Bytes) (cs : Charset) (d : Dec) : (rawEvent b cs d).1.complete = d.complete := by
  rcases rawEvent_cases b cs d with h | ⟨i, st, ev, _, _, _, h⟩ | ⟨_, h⟩ <;> rw [h]

theorem rawEvent_needData_same (b : Bytes) (cs : Charset) (d : Dec)
    (h : (rawEvent b cs d).2 = .needData) : (rawEvent b cs d).1 = d := by
  rcases rawEvent_cases b cs d with h' | ⟨i, st, ev, _, _, hev, h'⟩ | ⟨_, h'⟩ <;> rw [h'] at h ⊢
  · subst h; rcases hev with hev | hev
    · exact hev.elim
    · cases hev
  · cases h

theorem rawEvent_shrinks (b : Bytes) (cs : Charset) (d : Dec) (h : Consumes (rawEvent b cs d).2) :
    (rawEvent b cs d).1.buf.length < d.buf.length := by
  rcases rawEvent_cases b cs d with h' | ⟨i, st, ev, _, _, _, h'⟩ | ⟨_, h'⟩ <;> rw [h'] at h ⊢
  · exact h.elim
  · simp only [List.length_drop]; omega
  · exact h.elim

theorem nextEvent_of_not_complete (b : Bytes) (cs : Charset) (d : Dec) (h : d.complete = false) :
    nextEvent b cs d = rawEvent b cs d := by
  unfold nextEvent
  simp [rawEvent_complete, h]

def stepOnce (b : Bytes) (cfg : Cfg) (cs : Charset) (s : HS) : Step :=
  onEvent cfg cs { s with dec := (nextEvent b cs s.dec).1 } (nextEvent b cs s.dec).2

theorem stepOnce_eq {b : Bytes} {cfg : Cfg} {cs : Charset} {s : HS} (hnc : s.dec.complete = false) :
    stepOnce b cfg cs s =
      onEvent cfg cs { s with dec := (rawEvent b cs s.dec).1 } (rawEvent b cs s.dec).2 := by
  unfold stepOnce
  rw [nextEvent_of_not_complete b cs s.dec hnc]

theorem drain_succ (b : Bytes) (cfg : Cfg) (cs : Charset) (fuel : Nat) (s : HS) :
    drain b cfg cs (fuel + 1) s =
      match stepOnce b cfg cs s with
      | .continue s' => drain b cfg cs fuel s'
      | r => r := by
  rw [drain]
  rfl

/-- the test `onEvent` makes inline on `mem` at each `Data` of a field -/
def memExceeded (cfg : Cfg) (m : Nat) : Bool :=
  match cfg.maxMem with
  | some mm => decide (m > mm)
  | none => false

theorem onEvent_data_field (cfg : Cfg) (cs : Charset) (s : HS) (d : Bytes) (more : Bool)
    (hfile : s.file = none) :
    onEvent cfg cs s (.data d more) =
      if memExceeded cfg (s.mem + d.length) then .raise .tooLarge
      else if more then .continue { s with data := s.data ++ d, mem := s.mem + d.length }
      else if s.parts + 1 > cfg.maxParts then .raise .tooLarge
      else .continue { s with items := s.items ++ [Item.field s.fieldName (safeDecode cs (s.data ++ d))],
                              data := [], mem := s.mem + d.length, parts := s.parts + 1 } := by
  unfold onEvent
  simp only [hfile]
  rfl

theorem onEvent_data_file (cfg : Cfg) (cs : Charset) (s : HS) (d : Bytes) (more : Bool)
    (f : List Nat) (h : List (List Nat × List Nat)) (w : Bytes) (hfile : s.file = some (f, h, w)) :
    onEvent cfg cs s (.data d more) =
      if more then .continue { s with file := some (f, h, w ++ d) }
      else if s.parts + 1 > cfg.maxParts then .raise .tooLarge
      else .continue { s with items := s.items ++ [Item.file s.fieldName f h (w ++ d)], file := none,
                              parts := s.parts + 1 } := by
  unfold onEvent
  simp only [hfile]

theorem onEvent_data (cfg : Cfg) (cs : Charset) (s : HS) (d : Bytes) (more : Bool) :
    (∃ r, onEvent cfg cs s (.data d more) = .raise r) ∨
      ∃ s', onEvent cfg cs s (.data d more) = .continue s' ∧ s'.dec = s.dec := by
  cases hf : s.file with
  | none =>
    rw [onEvent_data_field cfg cs s d more hf]
    repeat' split
    all_goals first | exact .inl ⟨_, rfl⟩ | exact .inr ⟨_, rfl, rfl⟩
  | some w =>
    obtain ⟨f, h, w⟩ := w
    rw [onEvent_data_file cfg cs s d more f h w hf]
    repeat' split
    all_goals first | exact .inl ⟨_, rfl⟩ | exact .inr ⟨_, rfl, rfl⟩

theorem onEvent_continue {cfg : Cfg} {cs : Charset} {s s' : HS} {ev : Ev}
    (h : onEvent cfg cs s ev = .continue s') : s'.dec = s.dec ∧ Consumes ev := by
  cases ev with
  | needData | epilogue _ | malformed => cases h
  | preamble _ | field _ _ | file _ _ _ => cases h; exact ⟨rfl, trivial⟩
  | data d more =>
    rcases onEvent_data cfg cs s d more with ⟨r, hr⟩ | ⟨t, ht, hdec⟩
    · rw [hr] at h; cases h
    · rw [ht] at h; cases h; exact ⟨hdec, trivial⟩

theorem onEvent_break {cfg : Cfg} {cs : Charset} {s s' : HS} {ev : Ev}
    (h : onEvent cfg cs s ev = .break s') : s' = s ∧ (ev = .needData ∨ ∃ e, ev = .epilogue e) := by
  cases ev with
  | needData => cases h; exact ⟨rfl, Or.inl rfl⟩
  | epilogue e => cases h; exact ⟨rfl, Or.inr ⟨e, rfl⟩⟩
  | malformed | preamble _ | field _ _ | file _ _ _ => cases h
  | data d more =>
    rcases onEvent_data cfg cs s d more with ⟨r, hr⟩ | ⟨t, ht, _⟩
    · rw [hr] at h; cases h
    · rw [ht] at h; cases h

theorem stepOnce_continue {b : Bytes} {cfg : Cfg} {cs : Charset} {s s' : HS}
    (hnc : s.dec.complete = false) (h : stepOnce b cfg cs s = .continue s') :
    s'.dec = (rawEvent b cs s.dec).1 ∧ Consumes (rawEvent b cs s.dec).2 := by
  rw [stepOnce_eq hnc] at h
  exact onEvent_continue h

theorem stepOnce_break {b : Bytes} {cfg : Cfg} {cs : Charset} {s s' : HS}
    (hnc : s.dec.complete = false) (h : stepOnce b cfg cs s = .break s') :
    s' = s ∧ (rawEvent b cs s.dec).2 = .needData := by
  rw [stepOnce_eq hnc] at h
  obtain ⟨hs, hev | ⟨e, hev⟩⟩ := onEvent_break h
  · rw [hs, rawEvent_needData_same b cs s.dec hev]
    exact ⟨rfl, hev⟩
  · rcases rawEvent_cases b cs s.dec with h' | ⟨i, st, ev, _, _, hc, h'⟩ | ⟨hc, _⟩
    · rw [h'] at hev; cases hev
    · rw [h'] at hev; subst hev; rcases hc with hc | hc
      · exact hc.elim
      · cases hc
    · rw [hnc] at hc; cases hc

/-- With more fuel than bytes in the buffer (`feed` gives two more, one more than needed) and the
input incomplete, `drain` returns what `stepOnce` returns in the first state that does not continue;
`Q` is any property the `continue` steps preserve. -/
theorem drain_rule {b : Bytes} {cfg : Cfg} {cs : Charset} (Q : HS → Prop)
    (hQ : ∀ s s', Q s → s.dec.complete = false → stepOnce b cfg cs s = .continue s' → Q s') :
    ∀ (fuel : Nat) (s : HS), Q s → s.dec.complete = false → s.dec.buf.length < fuel →
      ∃ s', Q s' ∧ s'.dec.complete = false ∧ drain b cfg cs fuel s = stepOnce b cfg cs s' ∧
        ∀ t, stepOnce b cfg cs s' ≠ .continue t := by
  intro fuel
  induction fuel with
  | zero => intro s _ _ hlt; omega
  | succ fuel ih =>
    intro s hq hnc hlt
    rw [drain_succ]
    cases hstep : stepOnce b cfg cs s with
    | «continue» s1 =>
      obtain ⟨hdec, hcons⟩ := stepOnce_continue hnc hstep
      have hshr := rawEvent_shrinks b cs s.dec hcons
      exact ih s1 (hQ s s1 hq hnc hstep) (by rw [hdec, rawEvent_complete]; exact hnc) (by rw [hdec]; omega)
    | «break» s1 => exact ⟨s, hq, hnc, hstep.symm, fun t ht => by rw [hstep] at ht; cases ht⟩
    | raise r => exact ⟨s, hq, hnc, hstep.symm, fun t ht => by rw [hstep] at ht; cases ht⟩

/-- NEED_DATA in the DATA state means the whole buffer is held back -/
theorem data_wait_bound (b : Bytes) (cs : Charset) (d : Dec) (hst : d.st = .data)
    (h : (rawEvent b cs d).2 = .needData) :
    d.buf.length ≤ (marker b).length + 3 + trailingBlanks d.buf := by
  unfold rawEvent at h
  simp only [hst] at h
  unfold evData at h
  split at h
  · simp at h
  · split at h
    · rename_i h0
      have := length_sub_holdBack_le (marker b) d.buf
      omega
    · simp at h

end Baize.Multipart
