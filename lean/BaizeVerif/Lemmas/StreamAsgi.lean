/-
C06, ASGI side: the inductive invariants `SInv` (StreamResponse) and `EInv` (SendEventResponse).
-/
import BaizeVerif.Model.StreamAsgi
import BaizeVerif.Lemmas.Schedule

namespace Baize.StreamAsgi

open Baize.Stream (Slot foldl_getD_inv range_snoc_of_eq)

/-! The invariants guard their clauses by equations `s.render = …`, `s.wpc = …`; these put into the context that the
guards of a family cover every case. -/

theorem RSt.exhaust (r : RSt) : r = .fresh ∨ r = .open ∨ r = .finished := by
  cases r <;> simp

theorem WPc.exhaust (w : WPc) : w = .none ∨ w = .waiting ∨ w = .done := by
  cases w <;> simp

def SReachable (n : Nat) (fails : Bool) (s : SState) : Prop :=
  ∃ sched : List STid, srun sched (sinit n fails) = s

theorem SPc.pos_le (p : SPc) : p.pos ≤ 8 := by
  cases p <;> decide

theorem smain_eq_none {s : SState} : smain s = none ↔ s.mpc = .done := by
  fun_cases smain s <;> simp [*]

/-- the invariant of `StreamResponse`, annotated like `Stream.WInv` -/
structure SInv (s : SState) : Prop where
  -- the producer's `finally` ran iff the producer is finished (`s_finished_released`, `s_cleanup_at_most_once`)
  clean : s.cleanups = if s.gen = .finished then 1 else 0
  -- the producer's state follows that of the `render_stream` frame, which alone drives it (`s_finished_released`)
  rfresh : s.render = .fresh → s.gen = .fresh ∧ s.produced = 0
  ropen : s.render = .open → s.gen = .suspended
  rfin : s.render = .finished → s.gen = .finished
  -- where `__call__` stands relative to that frame: in the loop it has not ended, at `send` it is suspended at its
  -- `yield`, past `generator.aclose()` it is not open (`s_finished_released`)
  inloop : s.mpc = .start ∨ s.mpc = .loopTest ∨ s.mpc = .anext ∨ s.mpc = .send → s.render ≠ .finished
  sending : s.mpc = .send → s.render = .open
  past : s.mpc = .finalSend ∨ s.mpc = .done → s.render ≠ .open
  -- what was sent is 0, 1, 2, … and, with the chunk being sent, all that was produced (`s_delivered_prefix`)
  deliv : List.range s.delivered.length = s.delivered
  count : s.delivered.length + (if s.mpc = .send then 1 else 0) = s.produced
  -- the watcher exists from the first step of `__call__` on, and past `wait_close_future.cancel()` it is finished
  -- or its cancellation is requested (`s_finished_released`)
  wstart : s.mpc = .start → s.wpc = .none ∧ s.wcancel = false
  wlive : s.mpc ≠ .start → s.wpc ≠ .none
  wend : s.mpc = .finAclose ∨ s.mpc = .finalSend ∨ s.mpc = .done → s.wpc = .done ∨ s.wcancel = true
  prodLe : s.produced ≤ s.n

theorem sinv_init (n : Nat) (fails : Bool) : SInv (sinit n fails) := by
  constructor <;> simp [sinit]

theorem sinv_step {t : STid} {s s' : SState} (h : SInv s) (hs : sstep t s = some s') : SInv s' := by
  have := s.render.exhaust
  have := s.wpc.exhaust
  cases h
  revert hs
  fun_cases sstep t s
  any_goals fun_cases smain
  any_goals fun_cases swatcher
  all_goals intro hs; cases hs
  -- one goal per edge, to be read as in `Stream.winv_step`
  all_goals grind [SInv.mk, range_snoc_of_eq]

theorem sreachable_inv {n : Nat} {fails : Bool} {s : SState} (h : SReachable n fails s) : SInv s := by
  obtain ⟨sched, rfl⟩ := h
  exact foldl_getD_inv sinv_step sched (sinv_init n fails)

def EReachable (n : Nat) (fails : Bool) (s : EState) : Prop :=
  ∃ sched : List ETid, erun sched (einit n fails) = s

theorem EPc.pos_le (p : EPc) : p.pos ≤ 9 := by
  cases p <;> decide

theorem ERPc.base_le (p : ERPc) : p.base ≤ 4 := by
  cases p <;> decide

theorem emain_eq_none {s : EState} : emain s = none ↔ s.mpc = .done ∨ s.mpc = .rsGet ∧ s.q = .empty := by
  fun_cases emain s <;> simp [*]

theorem erelay_eq_none {s : EState} : erelay s = none ↔
    s.rpc = .none ∨ s.rpc = .done ∨
      s.rcancel = false ∧ (s.rpc = .put ∨ s.rpc = .putNone) ∧ s.q ≠ .empty := by
  fun_cases erelay s <;> simp [*]

/-- the invariant of `SendEventResponse`, annotated like `Stream.WInv` -/
structure EInv (s : EState) : Prop where
  -- as in `SInv` (`e_finished_released`, `e_cleanup_at_most_once`)
  clean : s.cleanups = if s.gen = .finished then 1 else 0
  -- the producer's state at each suspension point of the relay, which alone drives it (`e_finished_released`)
  gnone : s.rpc = .none ∨ s.rpc = .idle → s.gen = .fresh ∧ s.produced = 0
  ganext : s.rpc = .anext → s.gen = .running
  gput : s.rpc = .put → s.gen = .suspended
  gputNone : s.rpc = .putNone → s.gen = .finished
  gdone : s.rpc = .done → s.gen = .fresh ∨ s.gen = .finished
  -- the flag is set by the relay at its own end or by `rsFinally`, which in the same step cancels a relay that is
  -- not done: no relay runs on under a set flag, and the edges of `erelay` that would take it to `putNone` with a
  -- suspended producer do not occur (`gputNone`)
  stopc : s.stop = true → s.rpc = .done ∨ s.rpc = .putNone ∨ s.rcancel = true
  -- before the relay exists flag, queue and counter are as at the start: what the clauses about a live relay need
  -- when it is created
  rnone : s.rpc = .none → s.stop = false ∧ s.rcancel = false ∧ s.q = .empty ∧ s.taken = 0
  -- a cancellation is pending only from `rsFinally`, which drained the queue and ended the frame, and only for a
  -- relay that has a step left: its sentinel put finds room (`rfin`), it is enabled (`e_finished_released`)
  rcq : s.rcancel = true → s.q = .empty ∧ s.render = .finished ∧ s.rpc ≠ .done ∧ s.rpc ≠ .none
  -- where `__call__` stands relative to the `render_stream` frame, as in `SInv`
  inrs : s.mpc = .rsLoop ∨ s.mpc = .rsGet ∨ s.mpc = .send → s.render = .open
  inloop : s.mpc = .start ∨ s.mpc = .loopTest → s.render ≠ .finished
  -- the relay is created by the first step of the frame (`e_finished_released`)
  spawnA : s.render = .fresh → s.rpc = .none
  spawnB : s.render ≠ .fresh → s.rpc ≠ .none
  -- past `generator.aclose()` the frame is not open, and it ends through `rsFinally` only: the relay is finished or
  -- its cancellation is requested (`e_finished_released`)
  past : s.mpc = .finalSend ∨ s.mpc = .done → s.render ≠ .open
  rfin : s.render = .finished → s.rpc = .done ∨ s.rcancel = true
  -- the watcher, as in `SInv`
  wstart : s.mpc = .start → s.wpc = .none ∧ s.wcancel = false ∧ s.render = .fresh
  wlive : s.mpc ≠ .start → s.wpc ≠ .none
  wend : s.mpc = .finAclose ∨ s.mpc = .finalSend ∨ s.mpc = .done → s.wpc = .done ∨ s.wcancel = true
  -- what was sent is, with the item being sent, what was taken; the queued item is the next to be taken, the one
  -- being sent the last taken (`edel_step`, `e_delivered_prefix`)
  sendc : s.delivered.length + (if s.mpc = .send ∧ s.cur ≠ none then 1 else 0) = s.taken
  qitem : s.render = .open → ∀ i, s.q = .item i → i = s.taken
  curitem : s.mpc = .send → ∀ i, s.cur = some i → i + 1 = s.taken
  -- conservation of items as in `Stream.WInv`, while the frame is open; `rsFinally` drops what is queued without
  -- counting it, after which only the bound is left (`e_delivered_prefix`)
  count : s.render = .open →
    s.taken + (if s.q = .empty ∨ s.q = .sentinel then 0 else 1) + (if s.rpc = .put then 1 else 0) = s.produced
  takenLe : s.taken ≤ s.produced
  -- the producer yields at most its `n` items, none while it is fresh (`e_finished_released`)
  prodLe : s.produced ≤ s.n
  gfresh : s.gen = .fresh → s.produced = 0
  -- the relay calls `aclose()` on the iterable at its end and not before, unless it was cancelled before it ran
  -- (`e_aclose_exactly_once`)
  aclLive : s.rpc ≠ .done → s.acl = 0
  aclDone : s.rpc = .done → s.acl = 1 ∨ (s.gen = .fresh ∧ s.acl = 0)

theorem einv_init (n : Nat) (fails : Bool) : EInv (einit n fails) := by
  constructor <;> simp [einit]

theorem einv_step {t : ETid} {s s' : EState} (h : EInv s) (hs : estep t s = some s') : EInv s' := by
  have := s.render.exhaust
  have := s.wpc.exhaust
  cases h
  revert hs
  fun_cases estep t s
  any_goals fun_cases emain
  any_goals fun_cases ewatcher
  any_goals fun_cases erelay
  all_goals intro hs; cases hs
  -- One goal per edge, to be read as in `Stream.winv_step`.
  -- `+splitImp`: a clause whose guard the edge leaves open (`render = .open → …` on a relay edge) follows from the
  -- same clause before the edge by cases on the guard; as a premise of `EInv.mk` it is an implication, on which
  -- `grind` splits only when told to
  all_goals grind +splitImp [EInv.mk, rsFinally, relayFinally]

/-- `einv_step` at the relay's edges.  One of them is the cancellation that lands in
`q.put(None)`: `aclDone` holds after it because the inner `finally` of `push` still calls `aclose()` there. -/
theorem einv_relay {s s' : EState} (h : EInv s) (hs : erelay s = some s') : EInv s' :=
  einv_step (t := .relay) h hs

/-- `deliv` of the other two invariants.  It stands beside `EInv`, not in it, because `delivered` is written by one
edge only, the send of an item (`estep_delivered`): there it follows from `sendc` and `curitem` (`edel_step`), and
the case analysis of `einv_step` over all edges need not carry it. -/
def EDel (s : EState) : Prop := List.range s.delivered.length = s.delivered

theorem estep_delivered {t : ETid} {s s' : EState} (hs : estep t s = some s') :
    s'.delivered = s.delivered ∨
      ∃ i, s.mpc = .send ∧ s.cur = some i ∧ s'.delivered = s.delivered ++ [i] := by
  cases t <;> simp only [estep, emain, rsFinally, ewatcher, erelay, relayFinally] at hs <;> grind

theorem edel_step {t : ETid} {s s' : EState} (h : EInv s) (hd : EDel s)
    (hs : estep t s = some s') : EDel s' := by
  unfold EDel at *
  rcases estep_delivered hs with h' | ⟨i, hm, hc, h'⟩ <;> rw [h']
  · exact hd
  · have := h.sendc
    have := h.curitem hm i hc
    exact range_snoc_of_eq hd (by simp [hm, hc] at *; omega)

theorem ereachable_inv {n : Nat} {fails : Bool} {s : EState} (h : EReachable n fails s) :
    EInv s ∧ EDel s := by
  obtain ⟨sched, rfl⟩ := h
  exact foldl_getD_inv (P := fun s => EInv s ∧ EDel s)
    (fun h hs => ⟨einv_step h.1 hs, edel_step h.1 h.2 hs⟩) sched ⟨einv_init n fails, rfl⟩

end Baize.StreamAsgi
