/-
For C16: the March-based coordinates of a day number, and `parseHttpDate` on a text written field by field.
-/
import BaizeVerif.Model.Cookie
import BaizeVerif.Lemmas.Text

namespace Baize.Cookie

/-- era, year of the era, month index (March = 0) and day of the month; `z` is the day number they denote (as
`daysFromCivil` counts it) and `civilFromDays z` the civil date they spell.  719468 is the number of days from
0000-03-01, where an era begins, to 1970-01-01; `(153 * mp + 2) / 5` is the number of days before month `mp` of a
March-based year (the months run 31, 30, 31, 30, 31 in periods of 153 days) and `(5 * doy + 2) / 153` inverts it. -/
theorem civil_parts (z : Int) : ∃ era yoe mp d : Int,
    (0 ≤ yoe ∧ yoe ≤ 399) ∧ (0 ≤ mp ∧ mp ≤ 11) ∧ (1 ≤ d ∧ d ≤ 31) ∧ (-719468 ≤ z → 0 ≤ era) ∧
    z = era * 146097 + (yoe * 365 + yoe / 4 - yoe / 100 + ((153 * mp + 2) / 5 + d - 1)) - 719468 ∧
    civilFromDays z =
      (if (if mp < 10 then mp + 3 else mp - 9) ≤ 2 then yoe + era * 400 + 1 else yoe + era * 400,
        if mp < 10 then mp + 3 else mp - 9, d) := by
  unfold civilFromDays
  simp only
  generalize hera : (z + 719468) / 146097 = era
  generalize hdoe : z + 719468 - era * 146097 = doe
  have hd0 : 0 ≤ doe ∧ doe ≤ 146096 := by omega
  have he : -719468 ≤ z → 0 ≤ era := by omega
  -- each level needs only the bounds of the level above: with the older facts cleared every `omega` stays small
  clear hera
  generalize hc : min (doe / 36524) 3 = c
  have hc0 : 0 ≤ c ∧ c ≤ 3 := by omega
  generalize hr : doe - c * 36524 = r
  have hr0 : 0 ≤ r ∧ r ≤ 36524 := by omega
  clear hc hd0
  generalize hq : r / 1461 = q
  have hq0 : 0 ≤ q ∧ q ≤ 24 := by omega
  generalize hr4 : r - q * 1461 = r4
  have hr40 : 0 ≤ r4 ∧ r4 ≤ 1460 := by omega
  clear hq hr0
  generalize hn1 : min (r4 / 365) 3 = n1
  have hn10 : 0 ≤ n1 ∧ n1 ≤ 3 := by omega
  generalize hdoy : r4 - n1 * 365 = doy
  have hdoy0 : 0 ≤ doy ∧ doy ≤ 365 := by omega
  clear hn1 hr40
  -- `omega` does not find the two quotients of the year of the era, a sum of three unknowns, inside the final equation
  have y4 : (c * 100 + q * 4 + n1) / 4 = 25 * c + q := by omega
  have y100 : (c * 100 + q * 4 + n1) / 100 = c := by omega
  refine ⟨era, c * 100 + q * 4 + n1, (5 * doy + 2) / 153, doy - (153 * ((5 * doy + 2) / 153) + 2) / 5 + 1,
    by omega, by omega, by omega, he, ?_, rfl⟩
  rw [y4, y100]
  omega

theorem civil_year_nonneg (z : Int) (hz : -719468 ≤ z) : 0 ≤ (civilFromDays z).1 := by
  obtain ⟨era, yoe, mp, d, hy, -, -, he, -, hciv⟩ := civil_parts z
  have := he hz
  rw [hciv]
  simp only
  split <;> omega

theorem decimal_eq (n : Nat) : decimal n = Decimal.digits n := by
  cases n with
  | zero => rfl
  | succ m => exact Decimal.eq_digits_of_fuel (r := decFuel) (fun _ _ => rfl) m (m + 1) (by omega)

theorem decimal_val (n : Nat) : digitsVal (decimal n) = n := by
  rw [decimal_eq]
  exact Decimal.foldl_digits n

theorem decimal_digits (n : Nat) : ∀ c ∈ decimal n, isDigit c = true := by
  intro c hc
  rw [decimal_eq] at hc
  simpa [isDigit] using Decimal.mem_digits hc

theorem decimal_ne_nil (n : Nat) : decimal n ≠ [] := by
  rw [decimal_eq]
  exact Decimal.digits_ne_nil n

theorem spanDigits_append (a rest : Str) (ha : ∀ x ∈ a, isDigit x = true)
    (hr : ∀ x ∈ rest.head?, isDigit x = false) : spanDigits (a ++ rest) = (a, rest) := by
  induction a with
  | nil =>
    cases rest with
    | nil => rfl
    | cons x r => simp [spanDigits, hr x rfl]
  | cons c cs ih =>
    obtain ⟨hc, hcs⟩ := List.forall_mem_cons.mp ha
    simp [spanDigits, hc, ih hcs]

theorem dec2_val (n : Nat) (h : n < 100) : digitsVal (dec2 n) = n := by
  simp only [dec2, digitsVal, List.foldl_cons, List.foldl_nil]
  omega

theorem length_eq_three {l : Str} (h : l.length = 3) : ∃ a b c, l = [a, b, c] := by
  match l, h with
  | [a, b, c], _ => exact ⟨a, b, c, rfl⟩

theorem weekday_len : ∀ i, i < 7 → (weekdayNames.getD i []).length = 3 := by decide
theorem month_len : ∀ i, i < 12 → (monthNames.getD i []).length = 3 := by decide
theorem month_idx : ∀ i, i < 12 → monthIndex (monthNames.getD i []) = some (i + 1) := by decide +kernel

theorem parse_fields {w mon : Str} {m y d h i s : Nat} (hw : w.length = 3) (hl : mon.length = 3)
    (hm : monthIndex mon = some m) (hd : d < 100) (hh : h < 100) (hi : i < 100) (hs : s < 100) :
    parseHttpDate (w ++ [44, 32] ++ dec2 d ++ [32] ++ mon ++ [32] ++ decimal y ++ [32] ++
        dec2 h ++ [58] ++ dec2 i ++ [58] ++ dec2 s ++ [32, 71, 77, 84]) =
      some (daysFromCivil y m d * 86400 + h * 3600 + i * 60 + s) := by
  obtain ⟨w1, w2, w3, rfl⟩ := length_eq_three hw
  obtain ⟨m1, m2, m3, rfl⟩ := length_eq_three hl
  have e (n : Nat) (hn : n < 100) : digitsVal [48 + n / 10 % 10, 48 + n % 10] = n := dec2_val n hn
  have hne : (decimal y).isEmpty = false := by simp [decimal_ne_nil]
  simp only [dec2, List.cons_append, List.nil_append, List.append_assoc, parseHttpDate]
  rw [spanDigits_append (decimal y) (32 :: _) (decimal_digits _) (by simp [isDigit])]
  simp only [hm, hne, Bool.false_eq_true, ↓reduceIte, decimal_val, e d hd, e h hh, e i hi, e s hs]

end Baize.Cookie
