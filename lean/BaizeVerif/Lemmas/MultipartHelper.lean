/-
The stream helper (`parse_stream` / `parse_async_stream`) on a well-formed body:
an invariant that relates the helper's state to the position in the encoded
form, preserved by every event, for every way the body is cut into chunks.
-/
import BaizeVerif.Lemmas.MultipartForm

namespace Baize.Multipart

def itemOf (cs : Charset) (p : Part) : Option Item :=
  match p.ev with
  | .field n _ => some (.field n (safeDecode cs p.content))
  | .file n f h => some (.file n f h p.content)
  | _ => none

def isFieldPart (p : Part) : Bool :=
  match p.ev with
  | .field _ _ => true
  | _ => false

def fieldBytes : List Part → Nat
  | [] => 0
  | p :: ps => (if isFieldPart p then p.content.length else 0) + fieldBytes ps

/-- the result `parse_stream` must produce for a form.  On a well-formed form the `filterMap`
drops nothing: `PartOK.isPart` makes `itemOf` defined on every part. -/
def expected (cfg : Cfg) (cs : Charset) (parts : List Part) : Res :=
  if decide (parts.length > cfg.maxParts) || memExceeded cfg (fieldBytes parts) then .tooLarge
  else .ok (parts.filterMap (itemOf cs))

theorem fieldBytes_append (a b : List Part) : fieldBytes (a ++ b) = fieldBytes a + fieldBytes b := by
  induction a with
  | nil => simp [fieldBytes]
  | cons p a ih => simp [fieldBytes, ih]; omega

theorem memExceeded_mono {cfg : Cfg} {m1 m2 : Nat} (h : memExceeded cfg m1 = true) (hle : m1 ≤ m2) :
    memExceeded cfg m2 = true := by
  unfold memExceeded at h ⊢
  split
  · rename_i mm hmm
    rw [hmm] at h
    simp only [decide_eq_true_eq] at h ⊢
    omega
  · rename_i hmm; rw [hmm] at h; cases h

theorem expected_tooLarge_iff {cfg : Cfg} {cs : Charset} {parts : List Part} :
    expected cfg cs parts = .tooLarge ↔
      parts.length > cfg.maxParts ∨ memExceeded cfg (fieldBytes parts) = true := by
  unfold expected
  split <;> rename_i h <;> simpa using h

theorem expected_ok {cfg : Cfg} {cs : Charset} {parts : List Part} (hparts : parts.length ≤ cfg.maxParts)
    (hmem : memExceeded cfg (fieldBytes parts) = false) :
    expected cfg cs parts = .ok (parts.filterMap (itemOf cs)) := by
  unfold expected
  have : decide (parts.length > cfg.maxParts) = false := by simp; omega
  simp [this, hmem]

theorem hs_eta (s : HS) : { s with dec := s.dec } = s := by cases s; rfl

/-! ### the accumulators

They do not mention the decoder or the two observables of C15, so what is known of
them survives `receive` and the bookkeeping at the end of a chunk as it stands. -/

/-- between two parts nothing is being accumulated -/
def Idle (pd : List Part) (s : HS) : Prop := s.mem = fieldBytes pd ∧ s.file = none ∧ s.data = []

/-- while the content of `p` is being received, `e` being what has been emitted so far:
field text collects in `data` and counts against the memory limit, file content goes to the sink -/
def AccInv (pd : List Part) (p : Part) (e : Bytes) (s : HS) : Prop :=
  match p.ev with
  | .field n _ => s.file = none ∧ s.data = e ∧ s.fieldName = n ∧ s.mem = fieldBytes pd + e.length
  | .file n f h => s.file = some (f, h, e) ∧ s.fieldName = n ∧ s.data = [] ∧ s.mem = fieldBytes pd
  | _ => False

/-- what has been delivered: the items of the parts `pd`, within both limits -/
def Done (cfg : Cfg) (cs : Charset) (pd : List Part) (s : HS) : Prop :=
  s.items = pd.filterMap (itemOf cs) ∧ s.parts = pd.length ∧ pd.length ≤ cfg.maxParts ∧
    memExceeded cfg s.mem = false

theorem onEvent_header {cfg : Cfg} {cs : Charset} {pd : List Part} {p : Part} {s : HS}
    (hp : IsPartEv p.ev) (hd : Done cfg cs pd s) (hidle : Idle pd s) :
    ∃ s', onEvent cfg cs s p.ev = .continue s' ∧ s'.dec = s.dec ∧ Done cfg cs pd s' ∧ AccInv pd p [] s' := by
  obtain ⟨hmem, hfile, hdata⟩ := hidle
  unfold AccInv
  cases hev : p.ev with
  | field n h => exact ⟨_, rfl, rfl, hd, hfile, hdata, rfl, by simpa using hmem⟩
  | file n f h => exact ⟨_, rfl, rfl, hd, rfl, rfl, hdata, hmem⟩
  | needData | preamble _ | data _ _ | epilogue _ | malformed => rw [hev] at hp; cases hp

theorem onEvent_data_more {cfg : Cfg} {cs : Charset} {pd : List Part} {p : Part} {e : Bytes} {s : HS}
    (hd : Done cfg cs pd s) (hacc : AccInv pd p e s) (d : Bytes) :
    (onEvent cfg cs s (.data d true) = .raise .tooLarge ∧ isFieldPart p = true ∧
      memExceeded cfg (fieldBytes pd + (e.length + d.length)) = true) ∨
    ∃ s', onEvent cfg cs s (.data d true) = .continue s' ∧ s'.dec = s.dec ∧ Done cfg cs pd s' ∧
      AccInv pd p (e ++ d) s' := by
  unfold AccInv at hacc ⊢
  split at hacc
  · rename_i n h hev
    obtain ⟨hfile, hdata, hname, hmem⟩ := hacc
    rw [onEvent_data_field cfg cs _ _ _ hfile, hmem, Nat.add_assoc]
    split
    · rename_i hex; exact Or.inl ⟨rfl, by simp [isFieldPart, hev], hex⟩
    · rename_i hex
      refine Or.inr ⟨_, rfl, rfl, ⟨hd.1, hd.2.1, hd.2.2.1, ?_⟩, hfile, by simp [hdata], hname, ?_⟩
      · simpa [hmem, Nat.add_assoc] using hex
      · simp only [List.length_append]
  · obtain ⟨hfile, hname, hdata, hmem⟩ := hacc
    rw [onEvent_data_file cfg cs _ _ _ _ _ _ hfile]
    exact Or.inr ⟨_, rfl, rfl, hd, rfl, hname, hdata, hmem⟩
  · exact hacc.elim

theorem Done.snoc {cfg : Cfg} {cs : Charset} {pd : List Part} {p : Part} {it : Item} {s s' : HS}
    (hd : Done cfg cs pd s) (hit : itemOf cs p = some it) (hitems : s'.items = s.items ++ [it])
    (hparts : s'.parts = s.parts + 1) (hle : ¬ s.parts + 1 > cfg.maxParts) (hmem : memExceeded cfg s'.mem = false) :
    Done cfg cs (pd ++ [p]) s' := by
  obtain ⟨h1, h2, _, _⟩ := hd
  refine ⟨by rw [hitems, h1, List.filterMap_append]; simp [hit], by rw [hparts, h2]; simp, ?_, hmem⟩
  rw [List.length_append, ← h2]
  exact Nat.le_of_not_gt hle

theorem onEvent_data_last {cfg : Cfg} {cs : Charset} {pd : List Part} {p : Part} {e : Bytes} {s : HS}
    (hdn : Done cfg cs pd s) (hacc : AccInv pd p e s) (d : Bytes) (hd : e ++ d = p.content) :
    (onEvent cfg cs s (.data d false) = .raise .tooLarge ∧
      (memExceeded cfg (fieldBytes (pd ++ [p])) = true ∨ s.parts + 1 > cfg.maxParts)) ∨
    ∃ s', onEvent cfg cs s (.data d false) = .continue s' ∧ s'.dec = s.dec ∧ Done cfg cs (pd ++ [p]) s' ∧
      Idle (pd ++ [p]) s' := by
  have hlen : p.content.length = e.length + d.length := by rw [← hd]; simp
  have hfb : fieldBytes (pd ++ [p]) = fieldBytes pd + if isFieldPart p then p.content.length else 0 := by
    rw [fieldBytes_append]; simp [fieldBytes]
  unfold AccInv at hacc
  split at hacc
  · rename_i n h hev
    obtain ⟨hfile, hdata, hname, hmem⟩ := hacc
    have hfb' : fieldBytes (pd ++ [p]) = s.mem + d.length := by
      rw [hfb, hmem, hlen]; simp [isFieldPart, hev]; omega
    rw [onEvent_data_field cfg cs _ _ _ hfile, ← hfb']
    split
    · rename_i hex; exact Or.inl ⟨rfl, Or.inl hex⟩
    · rename_i hex
      simp only [Bool.false_eq_true, if_false]
      split
      · rename_i hpx; exact Or.inl ⟨rfl, Or.inr hpx⟩
      · rename_i hpx
        exact Or.inr ⟨_, rfl, rfl, hdn.snoc (by rw [itemOf, hev]) (by simp [hname, hdata, hd]) rfl hpx
          (by simpa using hex), rfl, hfile, rfl⟩
  · rename_i n f h hev
    obtain ⟨hfile, hname, hdata, hmem⟩ := hacc
    have hfb' : fieldBytes (pd ++ [p]) = s.mem := by
      rw [hfb, hmem]; simp [isFieldPart, hev]
    rw [onEvent_data_file cfg cs _ _ _ _ _ _ hfile]
    simp only [Bool.false_eq_true, if_false]
    split
    · rename_i hpx; exact Or.inl ⟨rfl, Or.inr hpx⟩
    · rename_i hpx
      exact Or.inr ⟨_, rfl, rfl, hdn.snoc (by rw [itemOf, hev]) (by simp [hname, hd]) rfl hpx hdn.2.2.2,
        hfb'.symm, rfl, hdata⟩
  · exact hacc.elim

/-- where the decoder stands in the encoded form: in front of the first delimiter; behind a
delimiter, `ps` being the parts still to come; inside the content of `p`, of which `e` has
been emitted and `c` is left -/
inductive Phase where
  | pre
  | between (ps : List Part)
  | data (p : Part) (e c : Bytes) (ps : List Part)

def PhaseInv (b pre epi : Bytes) (parts : List Part) (pd : List Part) (s : HS) (rest : Bytes) : Phase → Prop
  | .pre => pd = [] ∧ s.dec.st = .preamble ∧ s.dec.buf ++ rest = encode b pre parts epi ∧ Idle pd s
  | .between ps => parts = pd ++ ps ∧ AfterDelim b ps epi s.dec rest ∧ Idle pd s
  | .data p e c ps =>
    parts = pd ++ p :: ps ∧ s.dec.st = .data ∧ e ++ c = p.content ∧
      s.dec.buf ++ rest = streamData b c ps epi ∧ AccInv pd p e s

/-- the invariant of the helper's loops: `rest` is the part of the encoded form that has not been
received yet, `pd` the parts delivered so far, `ph` where the decoder stands -/
structure Inv (b pre epi : Bytes) (parts : List Part) (cfg : Cfg) (cs : Charset)
    (pd : List Part) (ph : Phase) (s : HS) (rest : Bytes) : Prop where
  done : Done cfg cs pd s
  phase : PhaseInv b pre epi parts pd s rest ph

structure FormOK (b pre : Bytes) (cs : Charset) (parts : List Part) : Prop where
  noLB : NoLB (marker b)
  preFree : Free (marker b) pre
  partsOK : ∀ p ∈ parts, PartOK b cs p

/-- One iteration of the inner loop: it waits for data (at the end of the body only behind the
closing delimiter), fails with 413 where that is expected, or goes on with the invariant. -/
theorem inv_step {b pre epi : Bytes} {parts : List Part} {cfg : Cfg} {cs : Charset}
    {pd : List Part} {ph : Phase} {s : HS} {rest : Bytes} (hform : FormOK b pre cs parts)
    (hinv : Inv b pre epi parts cfg cs pd ph s rest) (hnc : s.dec.complete = false) :
    (stepOnce b cfg cs s = .break s ∧ (rest = [] → ph = .between [])) ∨
    (stepOnce b cfg cs s = .raise .tooLarge ∧ expected cfg cs parts = .tooLarge) ∨
    (∃ s' pd' ph', stepOnce b cfg cs s = .continue s' ∧ Inv b pre epi parts cfg cs pd' ph' s' rest) := by
  obtain ⟨hdn, hph⟩ := hinv
  rw [stepOnce_eq hnc]
  cases ph with
  | pre =>
    obtain ⟨hpd, hst, hbuf, hidle⟩ := hph
    rcases step_preamble (cs := cs) hform.noLB hform.preFree hst hbuf with ⟨hev, hr⟩ | ⟨d', hev, had⟩
    · rw [hev]
      exact Or.inl ⟨rfl, fun h => absurd h hr⟩
    · rw [hev]
      subst hpd
      exact Or.inr (Or.inr ⟨{ s with dec := d' }, [], .between parts, rfl, hdn, rfl, had, hidle⟩)
  | between ps =>
    obtain ⟨hparts, had, hidle⟩ := hph
    cases ps with
    | nil =>
      have : rawEvent b cs s.dec = (s.dec, .needData) := by
        unfold rawEvent; simp [show s.dec.st = .epilogue from had, hnc]
      rw [this]
      exact Or.inl ⟨rfl, fun _ => rfl⟩
    | cons p ps =>
      obtain ⟨hst, slack, hs, hbuf⟩ := had
      have hp : PartOK b cs p := hform.partsOK p (by rw [hparts]; simp)
      rcases step_part (cs := cs) hs hp hst hbuf with ⟨hev, hr⟩ | ⟨d', hev, hst', hbuf'⟩
      · rw [hev]
        exact Or.inl ⟨rfl, fun h => absurd h hr⟩
      · rw [hev]
        obtain ⟨s', hs', hdec, hdn', hacc⟩ :=
          onEvent_header (cfg := cfg) (cs := cs) (s := { s with dec := d' }) hp.isPart hdn hidle
        exact Or.inr (Or.inr ⟨s', pd, .data p [] p.content ps, hs', hdn', hparts, by rw [hdec]; exact hst', rfl,
          by rw [hdec]; exact hbuf', hacc⟩)
  | data p e c ps =>
    obtain ⟨hparts, hst, hec, hbuf, hacc⟩ := hph
    have hp : PartOK b cs p := hform.partsOK p (by rw [hparts]; simp)
    have hfree : Free (marker b) c := hp.free.of_infix (by rw [← hec]; exact (List.suffix_append e c).isInfix)
    have hfb : fieldBytes (pd ++ [p]) ≤ fieldBytes parts := by
      rw [hparts, show pd ++ p :: ps = (pd ++ [p]) ++ ps by simp, fieldBytes_append (pd ++ [p])]; omega
    rcases step_data (cs := cs) hform.noLB hfree hst hbuf with ⟨hev, hr⟩ | ⟨i, hic, hev, hbuf'⟩ | ⟨d', hev, had⟩
    · rw [hev]
      exact Or.inl ⟨rfl, fun h => absurd h hr⟩
    · -- part of the content is emitted, more to come
      rw [hev]
      right
      rcases onEvent_data_more (cfg := cfg) (cs := cs) (s := { s with dec := { s.dec with buf := s.dec.buf.drop i } })
        hdn hacc (c.take i) with ⟨hr, hisf, hex⟩ | ⟨s', hs', hdec, hdn', hacc'⟩
      · refine Or.inl ⟨hr, expected_tooLarge_iff.mpr (.inr (memExceeded_mono hex (Nat.le_trans ?_ hfb)))⟩
        rw [fieldBytes_append]
        simp only [fieldBytes, hisf, if_true, ← hec, List.length_append, List.length_take]
        omega
      · exact Or.inr ⟨s', pd, .data p (e ++ c.take i) (c.drop i) ps, hs', hdn', hparts,
          by rw [hdec]; exact hst, by rw [← hec]; simp, by rw [hdec]; exact hbuf', hacc'⟩
    · -- the rest of the content and the delimiter
      rw [hev]
      right
      rcases onEvent_data_last (cfg := cfg) (cs := cs) (s := { s with dec := d' }) hdn hacc c hec with
        ⟨hr, hex | hpx⟩ | ⟨s', hs', hdec, hdn', hidle⟩
      · exact Or.inl ⟨hr, expected_tooLarge_iff.mpr (.inr (memExceeded_mono hex hfb))⟩
      · refine Or.inl ⟨hr, expected_tooLarge_iff.mpr (.inl ?_)⟩
        have : s.parts + 1 > cfg.maxParts := hpx
        have := hdn.2.1
        rw [hparts]; simp; omega
      · exact Or.inr ⟨s', pd ++ [p], .between ps, hs', hdn', by rw [hparts]; simp, by rw [hdec]; exact had, hidle⟩

theorem drain_spec {b pre epi : Bytes} {parts : List Part} {cfg : Cfg} {cs : Charset} {rest : Bytes}
    (hform : FormOK b pre cs parts) (fuel : Nat) (s : HS) (pd : List Part) (ph : Phase)
    (hinv : Inv b pre epi parts cfg cs pd ph s rest) (hnc : s.dec.complete = false)
    (hfuel : s.dec.buf.length < fuel) :
    (∃ s' pd' ph', drain b cfg cs fuel s = .break s' ∧ Inv b pre epi parts cfg cs pd' ph' s' rest ∧
        s'.dec.complete = false ∧ (rest = [] → ph' = .between [])) ∨
    (drain b cfg cs fuel s = .raise .tooLarge ∧ expected cfg cs parts = .tooLarge) := by
  obtain ⟨s', ⟨pd', ph', hinv'⟩, hnc', hd, hstop⟩ :=
    drain_rule (b := b) (cfg := cfg) (cs := cs) (fun s => ∃ pd ph, Inv b pre epi parts cfg cs pd ph s rest)
      (fun s s' ⟨pd, ph, hinv⟩ hnc hstep => by
        rcases inv_step hform hinv hnc with ⟨h, _⟩ | ⟨h, _⟩ | ⟨s'', pd', ph', h, hinv'⟩
        · rw [h] at hstep; cases hstep
        · rw [h] at hstep; cases hstep
        · rw [h] at hstep; cases hstep; exact ⟨pd', ph', hinv'⟩)
      fuel s ⟨pd, ph, hinv⟩ hnc hfuel
  rw [hd]
  rcases inv_step hform hinv' hnc' with ⟨h, hend⟩ | ⟨h, hexp⟩ | ⟨s'', _, _, h, _⟩
  · exact Or.inl ⟨s', pd', ph', h, hinv', hnc', hend⟩
  · exact Or.inr ⟨h, hexp⟩
  · exact absurd h (hstop s'')

theorem inv_receive {b pre epi : Bytes} {parts : List Part} {cfg : Cfg} {cs : Charset}
    {pd : List Part} {ph : Phase} {s : HS} {chunk rest : Bytes}
    (hinv : Inv b pre epi parts cfg cs pd ph s (chunk ++ rest)) :
    Inv b pre epi parts cfg cs pd ph { s with dec := receive s.dec (some chunk) } rest := by
  obtain ⟨hdn, hph⟩ := hinv
  refine ⟨hdn, ?_⟩
  cases ph with
  | pre =>
    obtain ⟨h1, h2, h3, h4⟩ := hph
    exact ⟨h1, h2, by simpa [receive] using h3, h4⟩
  | between ps =>
    obtain ⟨h1, h2, h3⟩ := hph
    refine ⟨h1, ?_, h3⟩
    cases ps with
    | nil => exact h2
    | cons p ps =>
      obtain ⟨hst, slack, hs, hbuf⟩ := h2
      exact ⟨hst, slack, hs, by simpa [receive] using hbuf⟩
  | data p e c ps =>
    obtain ⟨h1, h2, h3, h4, h5⟩ := hph
    exact ⟨h1, h2, h3, by simpa [receive] using h4, h5⟩

theorem inv_maxHeld {b pre epi : Bytes} {parts : List Part} {cfg : Cfg} {cs : Charset}
    {pd : List Part} {ph : Phase} {s : HS} {rest : Bytes} (m m' : Nat)
    (hinv : Inv b pre epi parts cfg cs pd ph s rest) :
    Inv b pre epi parts cfg cs pd ph { s with maxHeld := m, maxHeldData := m' } rest := by
  obtain ⟨hdn, hph⟩ := hinv
  refine ⟨hdn, ?_⟩
  cases ph <;> exact hph

/-- Once nothing is left to come every drain ends behind the closing delimiter (`drain_spec`), so
only a run without any chunk has to bring that along: hence `chunks = []`, not `chunks.flatten = []`.
`parseStream_exact` discharges it, the encoded form not being empty. -/
theorem feedAll_spec {b pre epi : Bytes} {parts : List Part} {cfg : Cfg} {cs : Charset}
    (hform : FormOK b pre cs parts) :
    ∀ (chunks : List Bytes) (s : HS) (pd : List Part) (ph : Phase),
      Inv b pre epi parts cfg cs pd ph s chunks.flatten → s.dec.complete = false →
      (chunks = [] → ph = .between []) → (feedAll b cfg cs s chunks).1 = expected cfg cs parts := by
  intro chunks
  induction chunks with
  | nil =>
    intro s pd ph hinv _ hdone
    have hph := hdone rfl
    subst hph
    obtain ⟨⟨hitems, hn, hpo, hmo⟩, hpd, _, hmem, _⟩ := hinv
    rw [List.append_nil] at hpd
    subst hpd
    rw [hmem] at hmo
    rw [expected_ok hpo hmo, ← hitems]
    rfl
  | cons chunk chunks ih =>
    intro s pd ph hinv hnc _
    have hinv0 : Inv b pre epi parts cfg cs pd ph { s with dec := receive s.dec (some chunk) }
        chunks.flatten := inv_receive (by simpa using hinv)
    simp only [feedAll, feed]
    rcases drain_spec hform ((receive s.dec (some chunk)).buf.length + 2) _ pd ph hinv0 hnc (by simp) with
      ⟨s', pd', ph', hd, hinv', hnc', hend⟩ | ⟨hd, hexp⟩
    · rw [hd]
      simp only
      exact ih _ pd' ph' (inv_maxHeld _ _ hinv') hnc' (fun hc => hend (by simp [hc]))
    · rw [hd]
      simp only
      exact hexp.symm

end Baize.Multipart
