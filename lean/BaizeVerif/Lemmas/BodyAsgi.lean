/-
C10, ASGI machine (`Baize.Body.step`).  The theorems of `Props/C10.lean` start from `runSched_aInit_inv`: every
reachable state satisfies `AInv`, that is `ShInv` of the shared state and `UOk` of each user task.

Every task step either leaves the shared state alone or is one of a few record updates: a future moves on (`fb`,
`fj`, `ff`), a task starts the drain, the owner of the drain takes a message.  `ShInv` and `StepOk` are proved once
for each update; the step functions are then followed case by case, `stepJson` and `stepForm` as the one function
`stepWrap` (with `WrapOk`, the clauses of `ShInv` about either).
-/
import BaizeVerif.Model.Body
namespace Baize.Body

/-- what the client sent, read from the current position with `acc` already collected; `none`: the script stops before
the final chunk -/
def specFrom (acc : Bytes) : List Msg → Option (Res Bytes)
  | [] => none
  | .disconnect :: _ => some (.err .disconnect)
  | .request b false :: _ => some (.ok (acc ++ b))
  | .request b true :: rest => specFrom (acc ++ b) rest

def specBody (script : List Msg) : Option (Res Bytes) := specFrom [] script

theorem specFrom_prefix (acc : Bytes) (ms : List Msg) (b : Bytes)
    (h : specFrom acc ms = some (.ok b)) : ∃ rest, acc ++ rest = b := by
  induction ms generalizing acc with
  | nil => simp [specFrom] at h
  | cons m ms ih =>
    cases m with
    | disconnect => simp [specFrom] at h
    | request c more =>
      cases more with
      | false =>
        simp only [specFrom, Option.some.injEq, Res.ok.injEq] at h
        exact ⟨c, h⟩
      | true =>
        simp only [specFrom] at h
        obtain ⟨rest, hr⟩ := ih _ h
        exact ⟨c ++ rest, by rw [← hr, List.append_assoc]⟩

def moreMsgs (chunks : List Bytes) : List Msg := chunks.map fun c => .request c true

theorem specFrom_more (acc : Bytes) (chunks : List Bytes) (tail : List Msg) :
    specFrom acc (moreMsgs chunks ++ tail) = specFrom (acc ++ chunks.flatten) tail := by
  induction chunks generalizing acc with
  | nil => simp [moreMsgs]
  | cons c cs ih =>
    simp only [moreMsgs, List.map_cons, List.cons_append, specFrom, List.flatten_cons] at ih ⊢
    rw [ih, List.append_assoc]

theorem specBody_complete (chunks : List Bytes) (last : Bytes) (tail : List Msg) :
    specBody (moreMsgs chunks ++ .request last false :: tail) = some (.ok (chunks.flatten ++ last)) := by
  simp [specBody, specFrom_more, specFrom]

theorem specBody_disconnected (chunks : List Bytes) (tail : List Msg) :
    specBody (moreMsgs chunks ++ .disconnect :: tail) = some (.err .disconnect) := by
  simp [specBody, specFrom_more, specFrom]

theorem specBody_unfinished (chunks : List Bytes) : specBody (moreMsgs chunks) = none := by
  have := specFrom_more [] chunks []
  simp only [List.append_nil] at this
  simp [specBody, this, specFrom]

/-- The invariant of the shared state.  Above each group of clauses: what it records, and the theorem of
`Props/C10.lean` that reads it off. -/
structure ShInv (P : Parsers) (sh : Sh) : Prop where
  -- the read position stays inside the script; each hand-out is logged, to the owner (`asgi_each_message_once`,
  -- `asgi_drain_started_once`)
  pos_le : sh.pos ≤ sh.script.length
  log_len : sh.log.length = sh.pos
  log_owner : ∀ t ∈ sh.log, sh.owner = some t
  -- `_stream_consumed` clear: nothing has happened on the channel and the body task has not run, which is what the two
  -- updates that start the drain find (`asgi_drain_started_once`); set: there is an owner
  fresh : sh.consumed = false → sh.owner = none ∧ sh.pos = 0 ∧ sh.calls = 0 ∧ (sh.fb = .absent ∨ sh.fb = .created)
  owned : sh.consumed = true → ∃ t, sh.owner = some t
  -- who owns the drain: never the json or form task, which only await the body future; the body task only once it is
  -- inside the drain.  Only `ShInv.refuse_fb` reads these and `owned`: a body task that finds the flag set at its
  -- first step lost to a user task
  owner_kind : sh.owner ≠ some .fjson ∧ sh.owner ≠ some .fform
  bowner : sh.owner = some .fbody → (∃ acc, sh.fb = .recv acc) ∨ (∃ r, sh.fb = .done r)
  -- at most one `receive()` call is outstanding (`asgi_each_message_once`)
  calls_bd : sh.pos ≤ sh.calls ∧ sh.calls ≤ sh.pos + 1
  -- the body task suspended in `receive()` is the owner, its call is the outstanding one, and what it has collected
  -- followed by what the script still holds denotes the whole body: the loop invariant of the drain, by which body =
  -- concatenation (`asgi_drain_started_once`, `asgi_no_deadlock`; `stepBody_ok` turns it into `bdone`)
  brecv : ∀ acc, sh.fb = .recv acc → sh.owner = some .fbody ∧ sh.calls = sh.pos + 1 ∧
    specFrom acc.flatten (sh.script.drop sh.pos) = specBody sh.script
  -- the body future ends in what the client sent, no call left outstanding, when its own task drained; in
  -- `Stream consumed` when a user task did (`asgi_body_outcome`, `asgi_body_after_stream_raises_consumed`)
  bdone : ∀ r, sh.fb = .done r →
    (sh.owner = some .fbody ∧ specBody sh.script = some r ∧ sh.calls = sh.pos) ∨
    (∃ i, sh.owner = some (.user i) ∧ r = .err .consumed)
  -- the json and form futures (`WrapOk`): one that awaits the body has the accessor's content type, and the body
  -- future exists (`asgi_no_deadlock`); a stored outcome is 415 or the parse of the body future's outcome
  -- (`asgi_json_form_of_the_same_body`)
  jwait : sh.fj = .waitBody → sh.ct = .json ∧ sh.fb ≠ .absent
  fwait : sh.ff = .waitBody → sh.ct = .urlenc ∧ sh.fb ≠ .absent
  jdone : ∀ r, sh.fj = .done r →
    (sh.ct ≠ .json ∧ r = .err (.http 415)) ∨ (sh.ct = .json ∧ ∃ rb, sh.fb = .done rb ∧ r = rb.bind P.json)
  fdone : ∀ r, sh.ff = .done r →
    (sh.ct ≠ .urlenc ∧ r = .err (.http 415)) ∨ (sh.ct = .urlenc ∧ ∃ rb, sh.fb = .done rb ∧ r = rb.bind P.form)

/-- what a step of task `t` may do to the shared state -/
structure StepOk (t : TId) (sh sh' : Sh) : Prop where
  -- the request stays the one `aInit` was given (`runSched_aInit_inv`)
  ct : sh'.ct = sh.ct
  script : sh'.script = sh.script
  -- a stored outcome stays: what a user task recorded remains backed (`OutOk.mono`, `asgi_concurrent_awaiters_agree`)
  fb : ∀ r, sh.fb = .done r → sh'.fb = .done r
  fj : ∀ r, sh.fj = .done r → sh'.fj = .done r
  ff : ∀ r, sh.ff = .done r → sh'.ff = .done r
  -- the drain is started once (`asgi_drain_started_once`)
  owner : ∀ o, sh.owner = some o → sh'.owner = some o
  consumed : sh.consumed = true → sh'.consumed = true
  -- only the owner touches the channel: `UOk.recv` of a suspended user task survives the other tasks' steps
  -- (`UOk.frame`), and nothing moves once the owner is done (`drained_stays`, `asgi_cached_no_receive`)
  frame : ∀ o, sh.owner = some o → o ≠ t → sh'.pos = sh.pos ∧ sh'.calls = sh.calls ∧ sh'.log = sh.log
  -- the read position never goes back (`asgi_each_message_once`)
  pos_mono : sh.pos ≤ sh'.pos
  calls_mono : sh.calls ≤ sh'.calls
  -- a future that exists is not forgotten: `UOk.wait` survives (`UOk.frame`)
  fbna : sh.fb ≠ .absent → sh'.fb ≠ .absent
  fjna : sh.fj ≠ .absent → sh'.fj ≠ .absent
  ffna : sh.ff ≠ .absent → sh'.ff ≠ .absent

theorem drop_pos {α : Type} {l : List α} {n : Nat} {x : α} (h : l[n]? = some x) :
    n < l.length ∧ l.drop n = x :: l.drop (n + 1) := by
  obtain ⟨hn, rfl⟩ := List.getElem?_eq_some_iff.1 h
  exact ⟨hn, List.drop_eq_getElem_cons hn⟩

/-- `stream()` yields no empty chunk: skipping it changes nothing of what was collected -/
theorem flatten_skip_nil (acc : List Bytes) (b : Bytes) :
    (if b = [] then acc else acc ++ [b]).flatten = acc.flatten ++ b := by
  split <;> simp_all

theorem StepOk.refl (t : TId) (sh : Sh) : StepOk t sh sh := by
  constructor <;> simp

theorem StepOk.trans {t : TId} {a b c : Sh} (h1 : StepOk t a b) (h2 : StepOk t b c) : StepOk t a c where
  ct := h2.ct.trans h1.ct
  script := h2.script.trans h1.script
  fb r hr := h2.fb r (h1.fb r hr)
  fj r hr := h2.fj r (h1.fj r hr)
  ff r hr := h2.ff r (h1.ff r hr)
  owner o ho := h2.owner o (h1.owner o ho)
  consumed hc := h2.consumed (h1.consumed hc)
  frame o ho hne := by
    obtain ⟨p1, c1, l1⟩ := h1.frame o ho hne
    obtain ⟨p2, c2, l2⟩ := h2.frame o (h1.owner o ho) hne
    exact ⟨p2.trans p1, c2.trans c1, l2.trans l1⟩
  pos_mono := Nat.le_trans h1.pos_mono h2.pos_mono
  calls_mono := Nat.le_trans h1.calls_mono h2.calls_mono
  fbna hn := h2.fbna (h1.fbna hn)
  fjna hn := h2.fjna (h1.fjna hn)
  ffna hn := h2.ffna (h1.ffna hn)

theorem StepOk.set_fb (t : TId) (sh : Sh) {fb' : FB} (hna : sh.fb ≠ .absent → fb' ≠ .absent)
    (hd : ∀ r, sh.fb = .done r → fb' = .done r) : StepOk t sh { sh with fb := fb' } :=
  { StepOk.refl t sh with fb := hd, fbna := hna }

theorem StepOk.start (t : TId) {sh : Sh} (ho : sh.owner = none) :
    StepOk t sh { sh with consumed := true, owner := some t, calls := sh.calls + 1 } :=
  { StepOk.refl t sh with
    owner := fun o h => by rw [ho] at h; cases h
    consumed := fun _ => rfl
    frame := fun _ h => by rw [ho] at h; cases h
    calls_mono := Nat.le_succ _ }

theorem StepOk.advance {t : TId} {sh : Sh} (ho : sh.owner = some t) {c : Nat} (hc : sh.calls ≤ c)
    (d : Bool) :
    StepOk t sh { sh with pos := sh.pos + 1, log := sh.log ++ [t], calls := c, disc := d } :=
  { StepOk.refl t sh with
    frame := fun _ h hne => absurd (Option.some.inj (h.symm.trans ho)) hne
    pos_mono := Nat.le_succ _
    calls_mono := hc }

/-- what `ShInv` says about the json future (`want`: the content type is JSON, `parse = P.json`)
and, with the other content type and parser, about the form future -/
def WrapOk {α : Type} (want : Prop) (parse : Bytes → Res α) (fb : FB) (w : FW α) : Prop :=
  (w = .waitBody → want ∧ fb ≠ .absent) ∧
  ∀ r, w = .done r →
    (¬ want ∧ r = .err (.http 415)) ∨ (want ∧ ∃ rb, fb = .done rb ∧ r = rb.bind parse)

theorem WrapOk.mono {α : Type} {want : Prop} {parse : Bytes → Res α} {fb fb' : FB} {w : FW α}
    (h : WrapOk want parse fb w) (hna : fb ≠ .absent → fb' ≠ .absent)
    (hd : ∀ r, fb = .done r → fb' = .done r) : WrapOk want parse fb' w :=
  ⟨fun hw => ⟨(h.1 hw).1, hna (h.1 hw).2⟩, fun r hr =>
    (h.2 r hr).imp_right fun ⟨hw, rb, hrb, e⟩ => ⟨hw, rb, hd rb hrb, e⟩⟩

theorem WrapOk.parsed {α : Type} {want : Prop} {parse : Bytes → Res α} {fb : FB} {w : FW α}
    (h : WrapOk want parse fb w) (hw : want) {r : Res α} (hr : w = .done r) :
    ∃ rb, fb = .done rb ∧ r = rb.bind parse :=
  (h.2 r hr).elim (fun a => absurd hw a.1) And.right

/-- `stepJson` and `stepForm` as one function of the body future and the task's own future; it returns the body future,
created by the first await when there was none, and the own future -/
def stepWrap {α : Type} (want : Prop) [Decidable want] (parse : Bytes → Res α) (fb : FB) :
    FW α → FB × FW α
  | .created =>
    if want then
      match fb with
      | .done r => (fb, .done (r.bind parse))
      | .absent => (.created, .waitBody)
      | _ => (fb, .waitBody)
    else (fb, .done (.err (.http 415)))
  | .waitBody =>
    match fb with
    | .done r => (fb, .done (r.bind parse))
    | _ => (fb, .waitBody)
  | w => (fb, w)

theorem stepJson_eq (P : Parsers) (sh : Sh) :
    stepJson P sh = { sh with fb := (stepWrap (sh.ct = .json) P.json sh.fb sh.fj).1,
                              fj := (stepWrap (sh.ct = .json) P.json sh.fb sh.fj).2 } := by
  obtain ⟨ct, script, pos, calls, consumed, disc, fb, fj, ff, owner, log⟩ := sh
  cases fj <;> cases fb <;> simp only [stepJson, stepWrap] <;> split <;> rfl

theorem stepForm_eq (P : Parsers) (sh : Sh) :
    stepForm P sh = { sh with fb := (stepWrap (sh.ct = .urlenc) P.form sh.fb sh.ff).1,
                              ff := (stepWrap (sh.ct = .urlenc) P.form sh.fb sh.ff).2 } := by
  obtain ⟨ct, script, pos, calls, consumed, disc, fb, fj, ff, owner, log⟩ := sh
  cases ff <;> cases fb <;> simp only [stepForm, stepWrap] <;> split <;> rfl

theorem stepWrap_ok {α : Type} {want : Prop} [Decidable want] {parse : Bytes → Res α} {fb : FB}
    {w : FW α} (h : WrapOk want parse fb w) :
    WrapOk want parse (stepWrap want parse fb w).1 (stepWrap want parse fb w).2 ∧
    ((stepWrap want parse fb w).1 = fb ∨ fb = .absent ∧ (stepWrap want parse fb w).1 = .created) ∧
    (w ≠ .absent → (stepWrap want parse fb w).2 ≠ .absent) ∧
    ∀ r, w = .done r → (stepWrap want parse fb w).2 = .done r := by
  cases w with
  | absent | done r => exact ⟨h, .inl rfl, id, fun _ => id⟩
  | created =>
    by_cases hw : want
    · cases fb <;> simp [stepWrap, WrapOk, hw]
    · simp [stepWrap, WrapOk, hw]
  | waitBody =>
    obtain ⟨hw, hna⟩ := h.1 rfl
    cases fb <;> simp [stepWrap, WrapOk, hw] at hna ⊢

section
variable {P : Parsers} {sh : Sh} (h : ShInv P sh)
include h

theorem ShInv.wrapJ : WrapOk (sh.ct = .json) P.json sh.fb sh.fj := ⟨h.jwait, h.jdone⟩

theorem ShInv.wrapF : WrapOk (sh.ct = .urlenc) P.form sh.fb sh.ff := ⟨h.fwait, h.fdone⟩

theorem ShInv.set_fj (t : TId) {w : FW JVal} (hw : WrapOk (sh.ct = .json) P.json sh.fb w)
    (hna : sh.fj ≠ .absent → w ≠ .absent) (hd : ∀ r, sh.fj = .done r → w = .done r) :
    ShInv P { sh with fj := w } ∧ StepOk t sh { sh with fj := w } :=
  ⟨{ h with jwait := hw.1, jdone := hw.2 }, { StepOk.refl t sh with fj := hd, fjna := hna }⟩

theorem ShInv.set_ff (t : TId) {w : FW FVal} (hw : WrapOk (sh.ct = .urlenc) P.form sh.fb w)
    (hna : sh.ff ≠ .absent → w ≠ .absent) (hd : ∀ r, sh.ff = .done r → w = .done r) :
    ShInv P { sh with ff := w } ∧ StepOk t sh { sh with ff := w } :=
  ⟨{ h with fwait := hw.1, fdone := hw.2 }, { StepOk.refl t sh with ff := hd, ffna := hna }⟩

theorem ShInv.create_fb (hfb : sh.fb = .absent) : ShInv P { sh with fb := .created } :=
  have hj := h.wrapJ.mono (fb' := .created) (fun _ => by simp) (by simp [hfb])
  have hf := h.wrapF.mono (fb' := .created) (fun _ => by simp) (by simp [hfb])
  { h with
    fresh := fun hc => ⟨(h.fresh hc).1, (h.fresh hc).2.1, (h.fresh hc).2.2.1, .inr rfl⟩
    bowner := fun ho => by simpa [hfb] using h.bowner ho
    brecv := fun acc ha => by cases ha
    bdone := fun r hr => by cases hr
    jwait := hj.1, jdone := hj.2, fwait := hf.1, fdone := hf.2 }

/-- the body task finds the stream consumed: a user task owns the drain -/
theorem ShInv.refuse_fb (hfb : sh.fb = .created) (hc : sh.consumed = true) :
    ShInv P { sh with fb := .done (.err .consumed) } := by
  have hj := h.wrapJ.mono (fb' := .done (.err .consumed)) (fun _ => by simp) (by simp [hfb])
  have hf := h.wrapF.mono (fb' := .done (.err .consumed)) (fun _ => by simp) (by simp [hfb])
  have hu : ∃ i, sh.owner = some (.user i) := by
    obtain ⟨t, ht⟩ := h.owned hc
    cases t with
    | user i => exact ⟨i, ht⟩
    | fbody => simpa [hfb] using h.bowner ht
    | fjson => exact absurd ht h.owner_kind.1
    | fform => exact absurd ht h.owner_kind.2
  exact { h with
    fresh := fun hc' => by rw [hc] at hc'; cases hc'
    bowner := fun _ => .inr ⟨_, rfl⟩
    brecv := fun acc ha => by cases ha
    bdone := fun r hr => by cases hr; exact .inr (hu.imp fun i hi => ⟨hi, rfl⟩)
    jwait := hj.1, jdone := hj.2, fwait := hf.1, fdone := hf.2 }

theorem ShInv.start_user (hc : sh.consumed = false) (i : Nat) :
    ShInv P { sh with consumed := true, owner := some (.user i), calls := sh.calls + 1 } := by
  obtain ⟨_, hp, hcl, hfb⟩ := h.fresh hc
  have hlog : sh.log = [] := List.eq_nil_of_length_eq_zero (h.log_len.trans hp)
  exact { h with
    log_owner := fun t ht => by simp [hlog] at ht
    fresh := fun hc' => by cases hc'
    owned := fun _ => ⟨_, rfl⟩
    owner_kind := ⟨by simp, by simp⟩
    bowner := fun ho => by simp at ho
    calls_bd := by simp [hp, hcl]
    brecv := fun acc ha => by rcases hfb with e | e <;> simp [e] at ha
    bdone := fun r hr => by rcases hfb with e | e <;> simp [e] at hr }

theorem ShInv.start_body (hc : sh.consumed = false) :
    ShInv P { sh with consumed := true, owner := some .fbody, calls := sh.calls + 1, fb := .recv [] } := by
  obtain ⟨_, hp, hcl, hfb⟩ := h.fresh hc
  have hlog : sh.log = [] := List.eq_nil_of_length_eq_zero (h.log_len.trans hp)
  have hnd : ∀ r, sh.fb = .done r → FB.recv [] = .done r := by rcases hfb with e | e <;> simp [e]
  have hj := h.wrapJ.mono (fb' := .recv []) (fun _ => by simp) hnd
  have hf := h.wrapF.mono (fb' := .recv []) (fun _ => by simp) hnd
  exact { h with
    log_owner := fun t ht => by simp [hlog] at ht
    fresh := fun hc' => by cases hc'
    owned := fun _ => ⟨_, rfl⟩
    owner_kind := ⟨by simp, by simp⟩
    bowner := fun _ => .inl ⟨_, rfl⟩
    calls_bd := by simp [hp, hcl]
    brecv := fun acc ha => by cases ha; simp [hp, hcl, specBody]
    bdone := fun r hr => by cases hr
    jwait := hj.1, jdone := hj.2, fwait := hf.1, fdone := hf.2 }

theorem ShInv.advance_user {i : Nat} (ho : sh.owner = some (.user i)) (hc : sh.calls = sh.pos + 1)
    (hlt : sh.pos < sh.script.length) {c : Nat} (hcc : c = sh.calls ∨ c = sh.calls + 1) (d : Bool) :
    ShInv P { sh with pos := sh.pos + 1, log := sh.log ++ [.user i], calls := c, disc := d } ∧
    StepOk (.user i) sh { sh with pos := sh.pos + 1, log := sh.log ++ [.user i], calls := c, disc := d } :=
  ⟨{ h with
    pos_le := hlt
    log_len := by simp [h.log_len]
    log_owner := fun t ht => by
      rcases List.mem_append.1 ht with ht | ht
      · exact h.log_owner t ht
      · rw [List.mem_singleton.1 ht]; exact ho
    fresh := fun hf => by simp [(h.fresh hf).1] at ho
    calls_bd := by simp only; omega
    brecv := fun acc ha => by simpa [ho] using (h.brecv acc ha).1
    bdone := fun r hr => (h.bdone r hr).elim (fun a => by simp [ho] at a) .inr },
   .advance ho (by omega) d⟩

/-- the body task, owner of the drain and suspended in `receive()`, takes a message: it goes on receiving (`acc'`) or
the message ends the body (`r`) -/
theorem ShInv.advance_body {acc : List Bytes} (hfb : sh.fb = .recv acc)
    (hlt : sh.pos < sh.script.length) (d : Bool) {c : Nat} {fb' : FB}
    (hn : (∃ acc', fb' = .recv acc' ∧ c = sh.calls + 1 ∧
            specFrom acc'.flatten (sh.script.drop (sh.pos + 1)) = specBody sh.script) ∨
          (∃ r, fb' = .done r ∧ c = sh.calls ∧ specBody sh.script = some r)) :
    ShInv P { sh with pos := sh.pos + 1, log := sh.log ++ [.fbody], calls := c, disc := d, fb := fb' } ∧
    StepOk .fbody sh
      { sh with pos := sh.pos + 1, log := sh.log ++ [.fbody], calls := c, disc := d, fb := fb' } := by
  obtain ⟨ho, hc, _⟩ := h.brecv acc hfb
  have hna : fb' ≠ .absent := by rcases hn with ⟨_, e, _⟩ | ⟨_, e, _⟩ <;> simp [e]
  have hle : sh.calls ≤ c := by rcases hn with ⟨_, _, e, _⟩ | ⟨_, _, e, _⟩ <;> omega
  have hj := h.wrapJ.mono (fun _ => hna) (by simp [hfb])
  have hf := h.wrapF.mono (fun _ => hna) (by simp [hfb])
  refine ⟨{ h with
    pos_le := hlt
    log_len := by simp [h.log_len]
    log_owner := fun t ht => by
      rcases List.mem_append.1 ht with ht | ht
      · exact h.log_owner t ht
      · rw [List.mem_singleton.1 ht]; exact ho
    fresh := fun hf => by simp [(h.fresh hf).1] at ho
    calls_bd := by rcases hn with ⟨_, _, e, _⟩ | ⟨_, _, e, _⟩ <;> simp only [e] <;> omega
    bowner := fun _ => hn.imp (fun ⟨a, e, _⟩ => ⟨a, e⟩) (fun ⟨r, e, _⟩ => ⟨r, e⟩)
    brecv := fun a ha => by
      rcases hn with ⟨a', e, e1, e2⟩ | ⟨_, e, _⟩
      · cases e.symm.trans ha; exact ⟨ho, by simp only [e1, hc], e2⟩
      · cases e.symm.trans ha
    bdone := fun r hr => by
      rcases hn with ⟨_, e, _⟩ | ⟨r', e, e1, e2⟩
      · cases e.symm.trans hr
      · cases e.symm.trans hr; exact .inl ⟨ho, e2, by simp only [e1, hc]⟩
    jwait := hj.1, jdone := hj.2, fwait := hf.1, fdone := hf.2 },
    (StepOk.advance ho hle d).trans (.set_fb _ _ (fun _ => hna) (by simp [hfb]))⟩

/-- awaiting the body creates its future when there is none -/
theorem ShInv.await_fb (t : TId) {fb' : FB} (hb : fb' = sh.fb ∨ sh.fb = .absent ∧ fb' = .created) :
    ShInv P { sh with fb := fb' } ∧ StepOk t sh { sh with fb := fb' } := by
  rcases hb with rfl | ⟨hb, rfl⟩
  · exact ⟨h, .refl _ _⟩
  · exact ⟨h.create_fb hb, .set_fb _ _ (by simp) (by simp [hb])⟩


theorem stepBody_ok :
    ShInv P (stepBody sh) ∧ StepOk .fbody sh (stepBody sh) := by
  unfold stepBody
  cases hfb : sh.fb with
  | absent | done r => exact ⟨h, .refl _ _⟩
  | created =>
    simp only
    split
    · rename_i hc
      exact ⟨h.refuse_fb hfb hc, .set_fb _ _ (by simp) (by simp [hfb])⟩
    · rename_i hc
      simp only [Bool.not_eq_true] at hc
      exact ⟨h.start_body hc,
        (StepOk.start _ (h.fresh hc).1).trans (.set_fb _ _ (by simp) (by simp [hfb]))⟩
  | recv acc =>
    obtain ⟨ho, hc, hspec⟩ := h.brecv acc hfb
    simp only
    cases hm : sh.script[sh.pos]? with
    | none => exact ⟨h, .refl _ _⟩
    | some m =>
      obtain ⟨hlt, hd⟩ := drop_pos hm
      rw [hd] at hspec
      cases m with
      | disconnect => exact h.advance_body hfb hlt true (.inr ⟨_, rfl, rfl, hspec.symm⟩)
      | request b more =>
        have hflat := flatten_skip_nil acc b
        cases more with
        | true =>
          simp only [if_true]
          exact h.advance_body hfb hlt sh.disc (.inl ⟨_, rfl, rfl, by rw [hflat]; exact hspec⟩)
        | false =>
          simp only [Bool.false_eq_true, if_false]
          refine h.advance_body hfb hlt sh.disc (.inr ⟨_, rfl, rfl, ?_⟩)
          rw [← hspec]
          simp [specFrom, hflat]

theorem stepJson_ok :
    ShInv P (stepJson P sh) ∧ StepOk .fjson sh (stepJson P sh) := by
  rw [stepJson_eq]
  obtain ⟨hw, hb, hna, hd⟩ := stepWrap_ok h.wrapJ
  obtain ⟨h', hso⟩ := h.await_fb .fjson hb
  obtain ⟨h'', hso'⟩ := h'.set_fj .fjson hw hna hd
  exact ⟨h'', hso.trans hso'⟩

theorem stepForm_ok :
    ShInv P (stepForm P sh) ∧ StepOk .fform sh (stepForm P sh) := by
  rw [stepForm_eq]
  obtain ⟨hw, hb, hna, hd⟩ := stepWrap_ok h.wrapF
  obtain ⟨h', hso⟩ := h.await_fb .fform hb
  obtain ⟨h'', hso'⟩ := h'.set_ff .fform hw hna hd
  exact ⟨h'', hso.trans hso'⟩

end

/-- what one `stream()` iteration may record: ended normally only with the whole body, `ClientDisconnect` only if the
client did disconnect before the final chunk, and in every case a prefix of the body -/
def AStreamOk (script : List Msg) (items : List Bytes) (fin : Fin) : Prop :=
  (fin = .ended → specBody script = some (.ok items.flatten)) ∧
  (fin = .raised .disconnect → specBody script = some (.err .disconnect)) ∧
  (∀ b, specBody script = some (.ok b) → ∃ rest, items.flatten ++ rest = b)

/-- an outcome recorded by a user task is backed by the shared state -/
def OutOk (sh : Sh) : Out → Prop
  | .body r => sh.fb = .done r
  | .json r => sh.fj = .done r
  | .form r => sh.ff = .done r
  | .closed _ => True
  | .stream items fin => AStreamOk sh.script items fin

/-- what the shared state owes user task `i` -/
structure UOk (sh : Sh) (i : Nat) (u : UTask) : Prop where
  -- read by every theorem about the `outs` of a user task
  outs : ∀ o ∈ u.outs, OutOk sh o
  -- suspended in `receive()` inside `stream()`: as `ShInv.brecv` for the body task, with the items yielded so far
  -- for what was collected (`asgi_drain_started_once`, `asgi_no_deadlock`)
  recv : ∀ k items, u.pc = .recv k items →
    sh.owner = some (.user i) ∧ 1 ≤ k ∧ sh.calls = sh.pos + 1 ∧ sh.consumed = true ∧
    specFrom items.flatten (sh.script.drop sh.pos) = specBody sh.script
  -- suspended awaiting a future: it exists, so its task can be scheduled (`asgi_no_deadlock`)
  wait : u.pc = .wait →
    (∃ rest, u.prog = .body :: rest ∧ sh.fb ≠ .absent) ∨
    (∃ rest, u.prog = .json :: rest ∧ sh.fj ≠ .absent) ∨
    (∃ rest, u.prog = .form :: rest ∧ sh.ff ≠ .absent)

theorem OutOk.mono {t : TId} {sh sh' : Sh} (h : StepOk t sh sh') {o : Out} (ho : OutOk sh o) :
    OutOk sh' o := by
  cases o with
  | body r => exact h.fb r ho
  | json r => exact h.fj r ho
  | form r => exact h.ff r ho
  | closed r => trivial
  | stream items fin => simp only [OutOk, h.script] at ho ⊢; exact ho

theorem OutOk.snoc {t : TId} {sh sh' : Sh} (h : StepOk t sh sh') {outs : List Out}
    (ho : ∀ o ∈ outs, OutOk sh o) {o : Out} (h' : OutOk sh' o) : ∀ o' ∈ outs ++ [o], OutOk sh' o' := by
  intro o' ho'
  rcases List.mem_append.1 ho' with hm | hm
  · exact (ho o' hm).mono h
  · rw [List.mem_singleton.1 hm]; exact h'

theorem AStreamOk.nil (script : List Msg) {fin : Fin} (he : fin ≠ .ended)
    (hd : fin ≠ .raised .disconnect) : AStreamOk script [] fin :=
  ⟨fun h => absurd h he, fun h => absurd h hd, fun b _ => ⟨b, rfl⟩⟩

theorem AStreamOk.whole {script : List Msg} {items : List Bytes} {fin : Fin}
    (hs : specBody script = some (.ok items.flatten)) (hd : fin ≠ .raised .disconnect) :
    AStreamOk script items fin :=
  ⟨fun _ => hs, fun h => absurd h hd, fun b hb => ⟨[], by simpa [hs] using hb⟩⟩

/-- `uGo` after a step `sh0 → sh` of the same task (`sh0 = sh` when the task starts from `sh`) -/
theorem uGo_ok {P : Parsers} (i : Nat) {sh0 sh : Sh} (h0 : StepOk (.user i) sh0 sh) (hs : ShInv P sh)
    (prog : List Op) :
    ∀ outs, (∀ o ∈ outs, OutOk sh o) →
      ShInv P (uGo i sh prog outs).1 ∧ StepOk (.user i) sh0 (uGo i sh prog outs).1 ∧
      UOk (uGo i sh prog outs).1 i (uGo i sh prog outs).2 := by
  induction prog with
  | nil => exact fun outs ho => ⟨hs, h0, ho, by simp [uGo], by simp [uGo]⟩
  | cons op rest ih =>
    intro outs ho
    -- an access that completes at once: `uGo` records the outcome and goes on with the same `sh`
    have next : ∀ o, OutOk sh o → _ := fun o h => ih _ (OutOk.snoc (.refl (.user i) sh) ho h)
    cases op with
    | body =>
      unfold uGo
      cases hfb : sh.fb with
      | done r => exact next _ hfb
      | absent =>
        obtain ⟨a, hso⟩ := hs.await_fb (.user i) (.inr ⟨hfb, rfl⟩)
        exact ⟨a, h0.trans hso, fun o h => (ho o h).mono hso, by simp, by simp⟩
      | created | recv acc => exact ⟨hs, h0, ho, by simp, by simp [hfb]⟩
    | json =>
      unfold uGo
      cases hfj : sh.fj with
      | done r => exact next _ hfj
      | absent =>
        obtain ⟨a, hso⟩ := hs.set_fj (.user i) (w := .created) ⟨by simp, by simp⟩ (by simp) (by simp [hfj])
        exact ⟨a, h0.trans hso, fun o h => (ho o h).mono hso, by simp, by simp⟩
      | created | waitBody => exact ⟨hs, h0, ho, by simp, by simp [hfj]⟩
    | form =>
      unfold uGo
      cases hff : sh.ff with
      | done r => exact next _ hff
      | absent =>
        obtain ⟨a, hso⟩ := hs.set_ff (.user i) (w := .created) ⟨by simp, by simp⟩ (by simp) (by simp [hff])
        exact ⟨a, h0.trans hso, fun o h => (ho o h).mono hso, by simp, by simp⟩
      | created | waitBody => exact ⟨hs, h0, ho, by simp, by simp [hff]⟩
    | close =>
      unfold uGo
      refine next _ ?_
      unfold closeOut
      split <;> trivial
    | stream k n =>
      unfold uGo
      split
      · exact next _ (AStreamOk.nil _ (by simp) (by simp))
      · rename_i hk
        have sent : ∀ r, sh.fb = .done r → r ≠ .err .consumed → specBody sh.script = some r := by
          intro r hr hne
          rcases hs.bdone r hr with ⟨_, h, _⟩ | ⟨_, _, h⟩
          · exact h
          · exact absurd h hne
        split
        · rename_i b hfb
          refine next _ ?_
          have hb := sent _ hfb (by simp)
          unfold replayOut
          split
          · exact .whole (by simpa using hb) (by simp)
          · split <;> exact .whole (by simpa using hb) (by simp)
        · rename_i e hfb
          refine next _ ⟨by simp, fun he => ?_, fun b _ => ⟨b, rfl⟩⟩
          cases he
          exact sent _ hfb (by simp)
        · split
          · exact next _ (AStreamOk.nil _ (by simp) (by simp))
          · rename_i hc
            simp only [Bool.not_eq_true] at hc
            obtain ⟨ho', hp, hcl, _⟩ := hs.fresh hc
            have hso := StepOk.start (.user i) ho'
            refine ⟨hs.start_user hc i, h0.trans hso, fun o h => (ho o h).mono hso, ?_, by simp⟩
            intro k' items' hpc
            cases hpc
            exact ⟨rfl, Nat.pos_of_ne_zero hk, by simp [hp, hcl], rfl, by simp [hp, specBody]⟩

theorem stepUser_ok {P : Parsers} (i : Nat) (sh : Sh) (u : UTask) (hs : ShInv P sh) (hu : UOk sh i u) :
    ShInv P (stepUser i sh u).1 ∧ StepOk (.user i) sh (stepUser i sh u).1 ∧
    UOk (stepUser i sh u).1 i (stepUser i sh u).2 := by
  unfold stepUser
  split
  · -- suspended in receive() inside stream
    rename_i k items k0 n rest hpc hprog
    obtain ⟨r1, r2, r3, r4, r5⟩ := hu.recv k items hpc
    unfold uRecv
    cases hm : sh.script[sh.pos]? with
    | none =>
      refine ⟨hs, .refl _ _, hu.outs, fun k' items' h => ?_, by simp⟩
      cases h
      exact ⟨r1, r2, r3, r4, r5⟩
    | some m =>
      obtain ⟨hlt, hd⟩ := drop_pos hm
      rw [hd] at r5
      cases m with
      | disconnect =>
        simp only [specFrom] at r5
        obtain ⟨a1, a2⟩ := hs.advance_user r1 r3 hlt (.inl rfl) true
        exact uGo_ok i a2 a1 rest _ (OutOk.snoc a2 hu.outs
          ⟨by simp, fun _ => r5.symm, fun b hb => by simp [← r5] at hb⟩)
      | request b more =>
        have hflat := flatten_skip_nil items b
        have pre : ∀ b', specBody sh.script = some (.ok b') → ∃ rest', (items.flatten ++ b) ++ rest' = b' := by
          intro b' hb'
          rw [← r5] at hb'
          cases more with
          | false =>
            simp only [specFrom, Option.some.injEq, Res.ok.injEq] at hb'
            exact ⟨[], by simp [hb']⟩
          | true => exact specFrom_prefix _ _ _ hb'
        simp only
        split
        · -- the k-th item: the consumer stops asking
          obtain ⟨a1, a2⟩ := hs.advance_user r1 r3 hlt (.inl rfl) sh.disc
          exact uGo_ok i a2 a1 rest _ (OutOk.snoc a2 hu.outs ⟨by simp, by simp, by simpa using pre⟩)
        · rename_i hnk
          cases more with
          | true =>
            simp only [if_true]
            obtain ⟨a1, a2⟩ := hs.advance_user r1 r3 hlt (.inr rfl) sh.disc
            refine ⟨a1, a2, fun o ho => (hu.outs o ho).mono a2, fun k' items' h => ?_, by simp⟩
            cases h
            refine ⟨r1, ?_, by simp only; omega, r4, by simp only [hflat]; exact r5⟩
            split
            · exact r2
            · rename_i hb
              have : ¬ k ≤ 1 := fun hk => hnk ⟨hb, hk⟩
              omega
          | false =>
            simp only [Bool.false_eq_true, if_false]
            simp only [specFrom] at r5
            obtain ⟨a1, a2⟩ := hs.advance_user r1 r3 hlt (.inl rfl) sh.disc
            refine uGo_ok i a2 a1 rest _ (OutOk.snoc a2 hu.outs
              ⟨fun _ => by simp [hflat, ← r5], fun h => ?_, by simpa [hflat] using pre⟩)
            split at h <;> (try split at h) <;> simp at h
  · exact ⟨hs, .refl _ _, hu⟩
  · exact uGo_ok i (.refl _ _) hs _ _ hu.outs

structure AInv (P : Parsers) (s : AState) : Prop where
  sh : ShInv P s.sh
  users : ∀ i, UOk s.sh i (s.users i)

theorem UOk.frame {t : TId} {sh sh' : Sh} (hso : StepOk t sh sh') (j : Nat) (hj : TId.user j ≠ t)
    {u : UTask} (hu : UOk sh j u) : UOk sh' j u := by
  refine ⟨fun o ho => OutOk.mono hso (hu.outs o ho), ?_, ?_⟩
  · intro k items hpc
    obtain ⟨r1, r2, r3, r4, r5⟩ := hu.recv k items hpc
    obtain ⟨f1, f2, _⟩ := hso.frame _ r1 hj
    refine ⟨hso.owner _ r1, r2, by rw [f1, f2]; exact r3, hso.consumed r4, ?_⟩
    rw [hso.script, f1]; exact r5
  · intro hw
    rcases hu.wait hw with ⟨rest, h1, h2⟩ | ⟨rest, h1, h2⟩ | ⟨rest, h1, h2⟩
    · exact Or.inl ⟨rest, h1, hso.fbna h2⟩
    · exact Or.inr (Or.inl ⟨rest, h1, hso.fjna h2⟩)
    · exact Or.inr (Or.inr ⟨rest, h1, hso.ffna h2⟩)

theorem step_inv {P : Parsers} {s : AState} (h : AInv P s) (t : TId) :
    AInv P (step P s t) ∧ StepOk t s.sh (step P s t).sh := by
  cases t with
  | fbody =>
    obtain ⟨a, b⟩ := stepBody_ok h.sh
    exact ⟨⟨a, fun i => UOk.frame b i (by simp) (h.users i)⟩, b⟩
  | fjson =>
    obtain ⟨a, b⟩ := stepJson_ok h.sh
    exact ⟨⟨a, fun i => UOk.frame b i (by simp) (h.users i)⟩, b⟩
  | fform =>
    obtain ⟨a, b⟩ := stepForm_ok h.sh
    exact ⟨⟨a, fun i => UOk.frame b i (by simp) (h.users i)⟩, b⟩
  | user i =>
    obtain ⟨a, b, c⟩ := stepUser_ok i s.sh (s.users i) h.sh (h.users i)
    refine ⟨⟨a, fun j => ?_⟩, b⟩
    simp only [step]
    by_cases hj : j = i
    · simp only [hj, if_true]; exact c
    · simp only [hj, if_false]
      exact UOk.frame b j (by simpa using hj) (h.users j)

theorem aInit_inv (P : Parsers) (ct : CT) (script : List Msg) (progs : List (List Op)) :
    AInv P (aInit ct script progs) := by
  refine ⟨?_, fun i => ?_⟩
  · constructor <;> simp [aInit]
  · have hu : ((aInit ct script progs).users i).outs = [] ∧ ((aInit ct script progs).users i).pc = .run := by
      simp only [aInit]
      split <;> exact ⟨rfl, rfl⟩
    exact ⟨by simp [hu.1], by simp [hu.2], by simp [hu.2]⟩

theorem runSched_nil (P : Parsers) (s : AState) : runSched P s [] = s := rfl

theorem runSched_cons (P : Parsers) (s : AState) (t : TId) (ts : List TId) :
    runSched P s (t :: ts) = runSched P (step P s t) ts := rfl

theorem runSched_append (P : Parsers) (s : AState) (a b : List TId) :
    runSched P s (a ++ b) = runSched P (runSched P s a) b := by
  simp [runSched, List.foldl_append]

/-- what a whole schedule may do to the shared state: the clauses of `StepOk` that do not depend on which task steps
(as `frame` does) -/
structure Grows (sh sh' : Sh) : Prop where
  ct : sh'.ct = sh.ct
  script : sh'.script = sh.script
  fb : ∀ r, sh.fb = .done r → sh'.fb = .done r
  fj : ∀ r, sh.fj = .done r → sh'.fj = .done r
  ff : ∀ r, sh.ff = .done r → sh'.ff = .done r
  owner : ∀ o, sh.owner = some o → sh'.owner = some o
  pos_mono : sh.pos ≤ sh'.pos
  calls_mono : sh.calls ≤ sh'.calls

theorem Grows.refl (sh : Sh) : Grows sh sh := by
  constructor <;> simp

theorem StepOk.grows {t : TId} {a b c : Sh} (h : StepOk t a b) (g : Grows b c) : Grows a c where
  ct := g.ct.trans h.ct
  script := g.script.trans h.script
  fb r hr := g.fb r (h.fb r hr)
  fj r hr := g.fj r (h.fj r hr)
  ff r hr := g.ff r (h.ff r hr)
  owner o ho := g.owner o (h.owner o ho)
  pos_mono := Nat.le_trans h.pos_mono g.pos_mono
  calls_mono := Nat.le_trans h.calls_mono g.calls_mono

theorem runSched_inv {P : Parsers} {s : AState} (h : AInv P s) (sched : List TId) :
    AInv P (runSched P s sched) ∧ Grows s.sh (runSched P s sched).sh := by
  induction sched generalizing s with
  | nil => exact ⟨h, .refl _⟩
  | cons t ts ih =>
    obtain ⟨a, b⟩ := step_inv h t
    obtain ⟨c, d⟩ := ih a
    exact ⟨c, b.grows d⟩

/-- other tasks are not the owner (`StepOk.frame`), and the body task has nothing left to do -/
theorem drained_stays {P : Parsers} {s : AState} (h : AInv P s) {r : Res Bytes}
    (hr : s.sh.fb = .done r) (ho : s.sh.owner = some .fbody) (more : List TId) :
    (runSched P s more).sh.pos = s.sh.pos ∧ (runSched P s more).sh.calls = s.sh.calls ∧
    (runSched P s more).sh.fb = .done r := by
  induction more generalizing s with
  | nil => exact ⟨rfl, rfl, hr⟩
  | cons t ts ih =>
    obtain ⟨a, b⟩ := step_inv h t
    have same : (step P s t).sh.pos = s.sh.pos ∧ (step P s t).sh.calls = s.sh.calls := by
      by_cases ht : t = .fbody
      · subst ht
        simp only [step, stepBody, hr]
        exact ⟨trivial, trivial⟩
      · exact ⟨(b.frame _ ho (Ne.symm ht)).1, (b.frame _ ho (Ne.symm ht)).2.1⟩
    obtain ⟨c1, c2, c3⟩ := ih a (b.fb r hr) (b.owner _ ho)
    exact ⟨c1.trans same.1, c2.trans same.2, c3⟩

theorem runSched_aInit_inv (P : Parsers) (ct : CT) (script : List Msg) (progs : List (List Op)) (sched : List TId) :
    AInv P (runSched P (aInit ct script progs) sched) ∧
    (runSched P (aInit ct script progs) sched).sh.script = script ∧
    (runSched P (aInit ct script progs) sched).sh.ct = ct :=
  have ⟨h, g⟩ := runSched_inv (aInit_inv P ct script progs) sched
  ⟨h, g.script, g.ct⟩

end Baize.Body
