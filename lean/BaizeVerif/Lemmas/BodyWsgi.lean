/-
C10, WSGI machine (`Baize.Body.wStep`): the read loop loses and duplicates nothing, the invariant `WInv`, and one
specification lemma per accessor (`AfterBody`, `AfterParse`, `AfterStream`: the outcome, and what the access does to
the state).
-/
import BaizeVerif.Model.Body
namespace Baize.Body

theorem totalLen_eq (inp : List Bytes) : totalLen inp = inp.flatten.length := by
  simp [totalLen, List.length_flatten]

theorem readIn_flatten (n : Nat) (inp : List Bytes) :
    (readIn n inp).1 ++ (readIn n inp).2.flatten = inp.flatten := by
  fun_induction readIn n inp with
  | case1 => simp
  | case2 cs ih => simpa using ih
  | case3 b c cs h => simp
  | case4 b c cs h =>
    simp only [List.flatten_cons, ← List.append_assoc, List.take_append_drop]

theorem readIn_nil (n : Nat) (hn : 0 < n) (inp : List Bytes) (h : (readIn n inp).1 = []) :
    inp.flatten = [] ∧ (readIn n inp).2 = [] := by
  fun_induction readIn n inp with
  | case1 => simp
  | case2 cs ih => simpa using ih h
  | case3 b c cs h' => simp at h
  | case4 b c cs h' =>
    simp at h
    omega

theorem pull_flatten (n k : Nat) (inp : List Bytes) :
    (pull n k inp).1.flatten ++ (pull n k inp).2.2.1.flatten = inp.flatten := by
  fun_induction pull n k inp with
  | case1 inp => rfl
  | case2 k inp rest h => simpa [h] using readIn_flatten n inp
  | case3 k inp c rest _ h items eof rest' r hp ih =>
    have hr : c ++ rest.flatten = inp.flatten := by simpa [h] using readIn_flatten n inp
    rw [hp] at ih
    simp only [List.flatten_cons, List.append_assoc] at ih ⊢
    rw [ih, hr]

/-- why `wBody` may drive the loop with `totalLen s.input + 1` calls: every call before EOF returns at least one byte -/
theorem pull_total (n k : Nat) (inp : List Bytes) (hk : totalLen inp < k) : (pull n k inp).2.1 = true := by
  fun_induction pull n k inp with
  | case1 inp => omega
  | case2 k inp rest h => rfl
  | case3 k inp c rest hc h items eof rest' r hp ih =>
    have hr : c ++ rest.flatten = inp.flatten := by simpa [h] using readIn_flatten n inp
    rw [hp] at ih
    refine ih ?_
    have := List.length_pos_iff.2 hc
    rw [totalLen_eq, ← hr, List.length_append] at hk
    rw [totalLen_eq]
    omega

theorem pull_eof_rest (n : Nat) (hn : 0 < n) (k : Nat) (inp : List Bytes)
    (h : (pull n k inp).2.1 = true) : (pull n k inp).2.2.1 = [] := by
  fun_induction pull n k inp with
  | case1 inp => cases h
  | case2 k inp rest hr =>
    have := (readIn_nil n hn inp (by rw [hr])).2
    rwa [hr] at this
  | case3 k inp c rest _ _ items eof rest' r hp ih =>
    rw [hp] at ih
    exact ih h

theorem pull_items (n k : Nat) (inp : List Bytes) :
    ∀ c ∈ (pull n k inp).1, c ≠ [] ∧ c.length ≤ n := by
  have hlen : ∀ inp, (readIn n inp).1.length ≤ n := by
    intro inp
    fun_induction readIn n inp with
    | case1 => simp
    | case2 cs ih => exact ih
    | case3 b c cs h => exact h
    | case4 b c cs h => simp [List.length_take]; omega
  fun_induction pull n k inp with
  | case1 inp => simp
  | case2 k inp rest h => simp
  | case3 k inp c rest hc h items eof rest' r hp ih =>
    have hlen := hlen inp
    rw [h] at hlen
    rw [hp] at ih
    intro c' hc'
    rcases List.mem_cons.1 hc' with rfl | hc'
    · exact ⟨hc, hlen⟩
    · exact ih c' hc'

theorem chunkSize_pos (n : Nat) : 0 < chunkSize n := by
  unfold chunkSize
  split
  · decide
  · omega

/-- the invariant of the WSGI machine (`orig`: the pieces `wsgi.input` held at the start) -/
structure WInv (P : Parsers) (orig : List Bytes) (s : WState) : Prop where
  -- what the `read()` calls returned, then what the input still holds, is what the server supplied
  -- (`wsgi_each_byte_once`)
  conserve : s.got.flatten ++ s.input.flatten = orig.flatten
  -- `_stream_consumed` clear: nothing was read and no body is cached (`wsgi_reads_only_in_first_drain`; what
  -- `WInv.drain` starts from)
  fresh : s.consumed = false → s.input = orig ∧ s.got = [] ∧ s.reads = 0 ∧ s.cBody = none
  -- a cache holds the specified value: the concatenation of all pieces, its parse under the accessor's content type;
  -- json and form are cached only over a cached body (the cache-hit branches of the four `w*_spec`)
  body : ∀ b, s.cBody = some b → b = orig.flatten ∧ s.consumed = true
  json : ∀ j, s.cJson = some j → s.ct = .json ∧ P.json orig.flatten = .ok j ∧ s.cBody = some orig.flatten
  form : ∀ f, s.cForm = some f → s.ct = .urlenc ∧ P.form orig.flatten = .ok f ∧ s.cBody = some orig.flatten

theorem wInit_inv (P : Parsers) (ct : CT) (chunks : List Bytes) : WInv P chunks (wInit ct chunks) := by
  constructor <;> simp [wInit]

/-! `rfl` because the `cached_property` flags that `tools/gen/c10.py` reads off the three accessors are `true`: an
accessor that loses its decorator in baize fails here, and with these every `*_spec` lemma below. -/

theorem lookup_body {α : Type} (c : Option α) : lookup cachedBody c = c := rfl
theorem lookup_json {α : Type} (c : Option α) : lookup cachedJson c = c := rfl
theorem lookup_form {α : Type} (c : Option α) : lookup cachedForm c = c := rfl

/-- consumed by a `stream()` with no body cached: the body is lost for good -/
def lost (s : WState) : Bool := s.consumed && s.cBody.isNone

def bodySpec (orig : List Bytes) (s : WState) : Res Bytes :=
  if lost s then .err .consumed else .ok orig.flatten

theorem bodySpec_ok {orig : List Bytes} {s : WState} {b : Bytes} (h : bodySpec orig s = .ok b) :
    lost s = false ∧ b = orig.flatten := by
  unfold bodySpec at h
  split at h <;> simp_all

def jsonSpec (P : Parsers) (orig : List Bytes) (s : WState) : Res JVal :=
  if s.ct = .json then (if lost s then .err .consumed else P.json orig.flatten) else .err (.http 415)

def formSpec (P : Parsers) (orig : List Bytes) (s : WState) : Res FVal :=
  if s.ct = .urlenc then (if lost s then .err .consumed else P.form orig.flatten) else .err (.http 415)

/-- what every access guarantees: once the stream is consumed only the json/form caches change -/
structure Frame (s s' : WState) : Prop where
  ct : s'.ct = s.ct
  keep : s.consumed = true →
    s'.consumed = true ∧ s'.reads = s.reads ∧ s'.input = s.input ∧ s'.got = s.got ∧ s'.cBody = s.cBody

theorem Frame.refl (s : WState) : Frame s s := ⟨rfl, fun hc => ⟨hc, rfl, rfl, rfl, rfl⟩⟩

theorem Frame.trans {a b c : WState} (h1 : Frame a b) (h2 : Frame b c) : Frame a c := by
  refine ⟨h2.ct.trans h1.ct, fun hc => ?_⟩
  obtain ⟨k1, k2, k3, k4, k5⟩ := h1.keep hc
  obtain ⟨l1, l2, l3, l4, l5⟩ := h2.keep k1
  exact ⟨l1, l2.trans k2, l3.trans k3, l4.trans k4, l5.trans k5⟩

theorem Frame.lost_eq {s s' : WState} (h : Frame s s') (hc : s.consumed = true) : lost s' = lost s := by
  simp [lost, hc, (h.keep hc).1, (h.keep hc).2.2.2.2]

def StreamOk (orig : List Bytes) (s : WState) : Out → Prop
  | .stream items fin =>
    (∃ rest, items.flatten ++ rest = orig.flatten) ∧
    (fin = .ended → items.flatten = orig.flatten) ∧
    (∀ e, fin = .raised e → e = .consumed ∧ lost s = true)
  | _ => False

def wExec (P : Parsers) (s : WState) (ops : List Op) : WState := (wRun P s ops).1

theorem wExec_nil (P : Parsers) (s : WState) : wExec P s [] = s := rfl

theorem wExec_cons (P : Parsers) (s : WState) (op : Op) (ops : List Op) :
    wExec P s (op :: ops) = wExec P (wStep P s op).1 ops := rfl

theorem wExec_append (P : Parsers) (s : WState) (a b : List Op) :
    wExec P s (a ++ b) = wExec P (wExec P s a) b := by
  induction a generalizing s with
  | nil => rfl
  | cons op a ih => simp only [List.cons_append, wExec_cons, ih]

def Op.isAccessor : Op → Bool
  | .body | .json | .form => true
  | _ => false

section
variable {P : Parsers} {orig : List Bytes} {s : WState} (h : WInv P orig s)
include h

theorem WInv.drain (hc : s.consumed = false) {items rest : List Bytes}
    (hf : items.flatten ++ rest.flatten = orig.flatten) (r : Nat) {cb : Option Bytes}
    (hcb : ∀ b, cb = some b → b = orig.flatten) :
    WInv P orig { s with consumed := true, input := rest, reads := s.reads + r, got := s.got ++ items,
                         cBody := cb } := by
  obtain ⟨_, hg, _, hb⟩ := h.fresh hc
  exact {
    conserve := by simpa [hg] using hf
    fresh := fun hc' => by cases hc'
    body := fun b hb' => ⟨hcb b hb', rfl⟩
    json := fun j hj => by simpa [hb] using (h.json j hj).2.2
    form := fun f hf => by simpa [hb] using (h.form f hf).2.2 }

structure AfterBody (P : Parsers) (orig : List Bytes) (s : WState) (r : WState × Res Bytes) : Prop where
  out : r.2 = bodySpec orig s
  inv : WInv P orig r.1
  frame : Frame s r.1
  lost_eq : lost r.1 = lost s
  consumed : r.1.consumed = true
  cached : lost s = false → r.1.cBody = some orig.flatten
  idle : s.consumed = true → r.1 = s

theorem wBody_spec : AfterBody P orig s (wBody s) := by
  unfold wBody
  rw [lookup_body]
  cases hb : s.cBody with
  | some b =>
    obtain ⟨rfl, hc⟩ := h.body b hb
    exact ⟨by simp [bodySpec, lost, hb], h, .refl s, rfl, hc, fun _ => hb, fun _ => rfl⟩
  | none =>
    cases hc : s.consumed with
    | true =>
      exact ⟨by simp [bodySpec, lost, hb, hc], h, .refl s, rfl, hc, by simp [lost, hb, hc], fun _ => rfl⟩
    | false =>
      simp only [Bool.false_eq_true, if_false]
      have hf := pull_flatten (chunkSize 0) (totalLen s.input + 1) s.input
      have hr := pull_eof_rest _ (chunkSize_pos 0) _ s.input (pull_total _ _ _ (Nat.lt_succ_self _))
      rcases hp : pull (chunkSize 0) (totalLen s.input + 1) s.input with ⟨items, eof, rest, r⟩
      rw [hp] at hf hr
      simp only at hf hr ⊢
      rw [(h.fresh hc).1] at hf
      have hi : items.flatten = orig.flatten := by simpa [hr] using hf
      rw [hi]
      exact ⟨by simp [bodySpec, lost, hc], h.drain hc hf r (fun b hb' => (Option.some.inj hb').symm),
        ⟨rfl, by simp [hc]⟩, by simp [lost, hc], rfl, fun _ => rfl, by simp [hc]⟩

/-- for `wJson` and `wForm`; `want`: the request has the accessor's content type, so that the body is read -/
structure AfterParse (P : Parsers) (orig : List Bytes) (want : Prop) (s : WState) {α : Type}
    (spec : Res α) (r : WState × Res α) : Prop where
  out : r.2 = spec
  inv : WInv P orig r.1
  frame : Frame s r.1
  lost_eq : lost r.1 = lost s
  consumed : want → r.1.consumed = true
  idle : ¬ want → r.1 = s

theorem wJson_spec : AfterParse P orig (s.ct = .json) s (jsonSpec P orig s) (wJson P s) := by
  have b := wBody_spec h
  unfold wJson jsonSpec
  rw [lookup_json]
  cases hcj : s.cJson with
  | some j =>
    obtain ⟨hct, hp, hcb⟩ := h.json j hcj
    exact ⟨by simp [hct, lost, hcb, hp], h, .refl s, rfl, fun _ => (h.body _ hcb).2, fun hne => absurd hct hne⟩
  | none =>
    by_cases hct : s.ct = .json
    · rw [if_pos hct, if_pos hct, ← Prod.eta (wBody s), b.out, bodySpec]
      cases hl : lost s with
      | true => exact ⟨rfl, b.inv, b.frame, b.lost_eq, fun _ => b.consumed, fun hne => absurd hct hne⟩
      | false =>
        simp only [Bool.false_eq_true, if_false]
        cases hp : P.json orig.flatten with
        | err e => exact ⟨rfl, b.inv, b.frame, b.lost_eq, fun _ => b.consumed, fun hne => absurd hct hne⟩
        | ok j =>
          refine ⟨rfl, { b.inv with json := fun j' hj' => ?_ }, ⟨b.frame.ct, b.frame.keep⟩, b.lost_eq,
            fun _ => b.consumed, fun hne => absurd hct hne⟩
          cases hj'
          exact ⟨b.frame.ct.trans hct, hp, b.cached hl⟩
    · rw [if_neg hct, if_neg hct]
      exact ⟨rfl, h, .refl s, rfl, fun hc => absurd hc hct, fun _ => rfl⟩

theorem wForm_spec : AfterParse P orig (s.ct = .urlenc) s (formSpec P orig s) (wForm P s) := by
  have b := wBody_spec h
  unfold wForm formSpec
  rw [lookup_form]
  cases hcf : s.cForm with
  | some f =>
    obtain ⟨hct, hp, hcb⟩ := h.form f hcf
    exact ⟨by simp [hct, lost, hcb, hp], h, .refl s, rfl, fun _ => (h.body _ hcb).2, fun hne => absurd hct hne⟩
  | none =>
    by_cases hct : s.ct = .urlenc
    · rw [if_pos hct, if_pos hct, ← Prod.eta (wBody s), b.out, bodySpec]
      cases hl : lost s with
      | true => exact ⟨rfl, b.inv, b.frame, b.lost_eq, fun _ => b.consumed, fun hne => absurd hct hne⟩
      | false =>
        simp only [Bool.false_eq_true, if_false]
        cases hp : P.form orig.flatten with
        | err e => exact ⟨rfl, b.inv, b.frame, b.lost_eq, fun _ => b.consumed, fun hne => absurd hct hne⟩
        | ok f =>
          refine ⟨rfl, { b.inv with form := fun f' hf' => ?_ }, ⟨b.frame.ct, b.frame.keep⟩, b.lost_eq,
            fun _ => b.consumed, fun hne => absurd hct hne⟩
          cases hf'
          exact ⟨b.frame.ct.trans hct, hp, b.cached hl⟩
    · rw [if_neg hct, if_neg hct]
      exact ⟨rfl, h, .refl s, rfl, fun hc => absurd hc hct, fun _ => rfl⟩

structure AfterStream (P : Parsers) (orig : List Bytes) (s : WState) (k : Nat) (r : WState × Out) : Prop where
  inv : WInv P orig r.1
  frame : Frame s r.1
  out : StreamOk orig s r.2
  consumed : 1 ≤ k → r.1.consumed = true
  loses : 1 ≤ k → s.cBody = none → lost r.1 = true
  replay : ∀ b, s.cBody = some b → r.1 = s ∧ (1 ≤ k → ∃ fin, r.2 = .stream [b] fin ∧ fin ≠ .raised .consumed)

theorem wStream_spec (k n : Nat) : AfterStream P orig s k (wStream s k n) := by
  unfold wStream
  by_cases hk : k = 0
  · simp only [hk, if_true]
    refine ⟨h, .refl s, ?_, by omega, by omega, fun b _ => ⟨rfl, by omega⟩⟩
    simp [StreamOk]
  · simp only [hk, if_false]
    cases hcb : s.cBody with
    | some b =>
      obtain ⟨rfl, hc⟩ := h.body b hcb
      simp only
      refine ⟨h, .refl s, ?_, fun _ => hc, by simp [hcb], ?_⟩
      · simp only [StreamOk, List.flatten_cons, List.flatten_nil, List.append_nil]
        refine ⟨⟨[], by simp⟩, fun _ => trivial, ?_⟩
        intro e he
        split at he <;> simp at he
      · intro b' hb'
        cases hcb.symm.trans hb'
        refine ⟨rfl, fun _ => ⟨_, rfl, ?_⟩⟩
        split <;> simp
    | none =>
      simp only
      cases hc : s.consumed with
      | true =>
        simp only [if_true]
        refine ⟨h, .refl s, ?_, fun _ => hc, ?_, by simp [hcb]⟩
        · simp [StreamOk, lost, hc, hcb]
        · simp [lost, hc, hcb]
      | false =>
        simp only [Bool.false_eq_true, if_false]
        have hpf := pull_flatten (chunkSize n) k s.input
        have her := pull_eof_rest _ (chunkSize_pos n) k s.input
        rcases hp : pull (chunkSize n) k s.input with ⟨items, eof, rest, r⟩
        rw [hp] at hpf her
        simp only at hpf her ⊢
        rw [(h.fresh hc).1] at hpf
        refine ⟨h.drain hc hpf r nofun, ⟨rfl, by simp [hc]⟩, ⟨⟨rest.flatten, hpf⟩, ?_, ?_⟩, by simp,
          by simp [lost], by simp [hcb]⟩
        · intro he
          cases eof with
          | true => simpa [her rfl] using hpf
          | false => simp at he
        · intro e he
          split at he <;> simp at he

theorem wStep_inv (op : Op) :
    WInv P orig (wStep P s op).1 ∧ Frame s (wStep P s op).1 := by
  cases op with
  | body => exact ⟨(wBody_spec h).inv, (wBody_spec h).frame⟩
  | json => exact ⟨(wJson_spec h).inv, (wJson_spec h).frame⟩
  | form => exact ⟨(wForm_spec h).inv, (wForm_spec h).frame⟩
  | close => exact ⟨h, .refl s⟩
  | stream k n => exact ⟨(wStream_spec h k n).inv, (wStream_spec h k n).frame⟩

theorem wExec_inv (ops : List Op) :
    WInv P orig (wExec P s ops) ∧ Frame s (wExec P s ops) := by
  induction ops generalizing s with
  | nil => exact ⟨h, .refl s⟩
  | cons op ops ih =>
    obtain ⟨h1, f1⟩ := wStep_inv h op
    obtain ⟨h2, f2⟩ := ih h1
    exact ⟨h2, f1.trans f2⟩

theorem wStep_again {s' : WState} (h' : WInv P orig s') (a : Op) (ha : a.isAccessor = true)
    (f : Frame (wStep P s a).1 s') :
    (wStep P s' a).2 = (wStep P s a).2 ∧ (wStep P s' a).1.reads = s'.reads ∧
    (wStep P s' a).1.input = s'.input := by
  have hct : s'.ct = s.ct := f.ct.trans (wStep_inv h a).2.ct
  -- the first access consumed the stream: `lost` is what it was, and the second access reads nothing
  have settled : (wStep P s a).1.consumed = true → lost (wStep P s a).1 = lost s →
      lost s' = lost s ∧ (wStep P s' a).1.reads = s'.reads ∧ (wStep P s' a).1.input = s'.input :=
    fun hc hl => ⟨(f.lost_eq hc).trans hl, ((wStep_inv h' a).2.keep (f.keep hc).1).2.1,
      ((wStep_inv h' a).2.keep (f.keep hc).1).2.2.1⟩
  cases a with
  | body =>
    have b := wBody_spec h
    obtain ⟨e, r⟩ := settled b.consumed b.lost_eq
    exact ⟨by simp only [wStep, (wBody_spec h').out, b.out, bodySpec, e], r⟩
  | json =>
    have j := wJson_spec h
    have j' := wJson_spec h'
    by_cases hj : s.ct = .json
    · obtain ⟨e, r⟩ := settled (j.consumed hj) j.lost_eq
      exact ⟨by simp only [wStep, j'.out, j.out, jsonSpec, hct, e], r⟩
    · -- the content type is not the accessor's: 415 both times, the state is left alone
      have hs := j'.idle (hct ▸ hj)
      exact ⟨by simp only [wStep, j'.out, j.out, jsonSpec, hct, hj, if_false], by simp only [wStep, hs],
        by simp only [wStep, hs]⟩
  | form =>
    have j := wForm_spec h
    have j' := wForm_spec h'
    by_cases hj : s.ct = .urlenc
    · obtain ⟨e, r⟩ := settled (j.consumed hj) j.lost_eq
      exact ⟨by simp only [wStep, j'.out, j.out, formSpec, hct, e], r⟩
    · have hs := j'.idle (hct ▸ hj)
      exact ⟨by simp only [wStep, j'.out, j.out, formSpec, hct, hj, if_false], by simp only [wStep, hs],
        by simp only [wStep, hs]⟩
  | close | stream k n => cases ha

end

end Baize.Body
