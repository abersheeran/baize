/-
Vocabulary and lemmas for C14 (conditional requests).  Two independent facts hold of every trace: each
response is `answer` on the file of its moment given the responses before it (`Answered`, no clock
involved), and under the clock hypothesis the files of a trace lie on one timeline (`exec_timeline`).
For a request carrying validators of an earlier response they read `ValidatorsFrom.response` and
`ValidatorsFrom.timeline`; with them a property theorem is a statement about the pure decision
`notModified` on a rendered request (`notModified_tags`, `notModified_nil`, `notModified_of_modified`).
-/
import BaizeVerif.Model.Conditional
import BaizeVerif.Lemmas.Text

namespace Baize.Conditional

open Baize.Gen.Conditional

/-- characters an opaque tag may consist of here: no whitespace, no `"`, no `,` -/
def isTagChar (c : Nat) : Bool := !isWs c && c != 34 && c != 44
def TagText (t : List Nat) : Prop := ∀ c ∈ t, isTagChar c = true

/-- a member of an If-None-Match list as a client spells it: padding, weak flag, opaque tag.  `W/` (87 47),
`"` (34) and the separating `,` (44) are those of RFC 7232, written out on purpose: the header is the
client's, only what `if_none_match` tests for comes from `Gen`. -/
structure Tag where
  lpad : List Nat
  weak : Bool
  text : List Nat
  rpad : List Nat

def Tag.Ok (t : Tag) : Prop :=
  (∀ c ∈ t.lpad, isWs c = true) ∧ (∀ c ∈ t.rpad, isWs c = true) ∧ TagText t.text

def tagCore (t : Tag) : List Nat := (if t.weak then [87, 47] else []) ++ 34 :: (t.text ++ [34])
def renderTag (t : Tag) : List Nat := t.lpad ++ tagCore t ++ t.rpad
def renderTags : List Tag → List Nat
  | [] => []
  | [t] => renderTag t
  | t :: t' :: ts => renderTag t ++ 44 :: renderTags (t' :: ts)

private theorem stripBy_bracket (p : Nat → Bool) {a b : List Nat} (x y : Nat) (mid : List Nat)
    (ha : ∀ c ∈ a, p c = true) (hb : ∀ c ∈ b, p c = true) (hx : p x = false) (hy : p y = false) :
    stripBy p (a ++ x :: (mid ++ [y]) ++ b) = x :: (mid ++ [y]) :=
  List.strip_pad p ha hb (by simp [hx]) (by simp [List.getLast?_cons, hy])

private theorem splitOn_eq (sep : Nat) (s : List Nat) : splitOn sep s = s.splitOn sep := by
  induction s with
  | nil => rfl
  | cons c cs ih =>
    rw [splitOn, List.splitOn_cons_eq_if_modifyHead, ih]
    cases h : List.splitOn sep cs with
    | nil => exact absurd h (List.splitOn_ne_nil sep cs)
    | cons p ps => simp

private theorem tagChar_facts {c : Nat} (h : isTagChar c = true) : isWs c = false ∧ c ≠ 34 ∧ c ≠ 44 := by
  simp only [isTagChar, Bool.and_eq_true, Bool.not_eq_true', bne_iff_ne, ne_eq] at h
  exact ⟨h.1.1, h.1.2, h.2⟩

private theorem isQuote_eq (c : Nat) : isQuote c = (c == 34) := by
  simp only [isQuote, stripChars, List.contains, List.elem]
  cases c == 34 <;> rfl

private theorem renderTag_no_comma (t : Tag) (h : t.Ok) : 44 ∉ renderTag t := by
  intro hc
  simp only [renderTag, tagCore, List.mem_append, List.mem_cons] at hc
  rcases hc with (hc | hc | hc | hc | hc) | hc
  · exact absurd (h.1 _ hc) (by decide)
  · split at hc <;> simp at hc
  · omega
  · exact (tagChar_facts (h.2.2 _ hc)).2.2 rfl
  · simp at hc
  · exact absurd (h.2.1 _ hc) (by decide)

private theorem split_renderTags (tags : List Tag) (h : ∀ t ∈ tags, t.Ok) (hne : tags ≠ []) :
    splitOn 44 (renderTags tags) = tags.map renderTag := by
  induction tags with
  | nil => exact absurd rfl hne
  | cons t ts ih =>
    have ht := renderTag_no_comma t (h t (by simp))
    cases ts with
    | nil => simpa [renderTags, splitOn_eq] using List.splitOn_eq_singleton ht
    | cons t' ts =>
      rw [renderTags, splitOn_eq, List.splitOn_append_cons_self_of_not_mem ht, ← splitOn_eq,
        ih (fun x hx => h x (by simp [hx])) (by simp)]
      rfl

private theorem quote_mem_renderTags {tags : List Tag} (h : tags ≠ []) : 34 ∈ renderTags tags := by
  obtain ⟨t, ts, rfl⟩ := List.exists_cons_of_ne_nil h
  cases ts <;> simp [renderTags, renderTag, tagCore]

private theorem renderTags_ne_nil (tags : List Tag) (h : tags ≠ []) : (renderTags tags).isEmpty = false := by
  have hq := quote_mem_renderTags h
  cases hr : renderTags tags with
  | nil => simp [hr] at hq
  | cons _ _ => rfl

private theorem memberMatch_renderTag (e : List Nat) (t : Tag) (h : t.Ok) :
    memberMatch e (renderTag t) = (e == t.text) := by
  have hq : ∀ c ∈ t.text, isQuote c = false := by
    intro c hc; rw [isQuote_eq]; simpa using (tagChar_facts (h.2.2 c hc)).2.1
  -- the whitespace padding goes, then `W/`, then (no whitespace is left) the quotes
  have h1 : stripBy isWs (renderTag t) = tagCore t := by
    unfold renderTag tagCore
    cases t.weak
    · exact stripBy_bracket isWs 34 34 t.text h.1 h.2.1 (by decide) (by decide)
    · exact stripBy_bracket isWs 87 34 (47 :: 34 :: t.text) h.1 h.2.1 (by decide) (by decide)
  have h2 : (if weakPrefix.isPrefixOf (tagCore t) then (tagCore t).drop weakDrop else tagCore t) =
      34 :: (t.text ++ [34]) := by
    cases hw : t.weak <;> simp [tagCore, hw, weakPrefix, weakDrop, List.isPrefixOf]
  have h3 : stripBy isWs (34 :: (t.text ++ [34])) = 34 :: (t.text ++ [34]) := by
    simpa using stripBy_bracket isWs (a := []) (b := []) 34 34 t.text (by simp) (by simp) (by decide) (by decide)
  have h4 : stripBy isQuote (34 :: (t.text ++ [34])) = t.text := by
    simpa [stripBy] using List.strip_pad isQuote (a := [34]) (m := t.text) (b := [34]) (by simp [isQuote_eq])
      (by simp [isQuote_eq]) (fun c hc => hq c (List.mem_of_mem_head? hc))
      (fun c hc => hq c (List.mem_of_getLast? hc))
  unfold memberMatch
  simp only [h1, h2, h3, h4]

/-- `if_none_match` on a well-formed list looks at the opaque tags alone: weak or strong, any position, any
padding -/
theorem ifNoneMatch_renderTags (e : List Nat) (tags : List Tag) (h : ∀ t ∈ tags, t.Ok) :
    ifNoneMatch e (renderTags tags) = true ↔ ∃ t ∈ tags, t.text = e := by
  by_cases hne : tags = []
  · subst hne
    simp [renderTags, ifNoneMatch, ifNoneMatchWith]
  · have hq := quote_mem_renderTags hne
    have h2 : (renderTags tags == star) = false := by
      rw [beq_eq_false_iff_ne]
      intro hs
      simp [hs, star] at hq
    unfold ifNoneMatch ifNoneMatchWith
    simp only [renderTags_ne_nil tags hne, h2, Bool.false_eq_true, if_false, weakPerMember, if_true]
    rw [show sepChar = 44 from rfl, split_renderTags tags h hne, List.any_map, List.any_eq_true]
    refine exists_congr fun t => and_congr_right fun ht => ?_
    rw [Function.comp, memberMatch_renderTag e t (h t ht), beq_iff_eq, eq_comm]

/-- `(now, new mtime)` of a modification -/
def Op.stamp? : Op → Option (Nat × Nat)
  | .rewriteSame t => some (t, t)
  | .rewriteOther t _ => some (t, t)
  | .touch t => some (t, t)
  | .restoreSame t m => some (t, m)
  | .restoreOther t m _ => some (t, m)
  | .request _ _ _ => none

/-- clock hypothesis: the time `t` a modification stamps `ctime` with is at least `g` ticks after the
file's previous `ctime` (the change time never goes back), and the new `mtime` is not in the future.  With
`stamped = true` moreover `mtime = t` (no `mtime`-preserving or `mtime`-rewinding replacement in the
history). -/
def Clocked (g : Nat) (stamped : Bool) : File → List Op → Prop
  | _, [] => True
  | f, op :: ops =>
    (∀ t m, op.stamp? = some (t, m) → f.ctime + g ≤ t ∧ m ≤ t ∧ (stamped = true → m = t)) ∧
    Clocked g stamped (modify f op) ops

/-- no future-dated `mtime` -/
def Wf (f : File) : Prop := f.mtime ≤ f.ctime

theorem Clocked.mono {g g' : Nat} {st st' : Bool} (hg : g' ≤ g) (hst : st' = true → st = true)
    {f : File} {ops : List Op} (h : Clocked g st f ops) : Clocked g' st' f ops := by
  induction ops generalizing f with
  | nil => trivial
  | cons op ops ih =>
    refine ⟨fun t m hs => ?_, ih h.2⟩
    obtain ⟨h1, h2, h3⟩ := h.1 t m hs
    exact ⟨by omega, h2, fun h' => h3 (hst h')⟩

/-- what is assumed of `generate_etag` (SHA-1 of `f"{st_mtime}-{st_size}"`, hex): different
`(mtime, size)` give different tags (collision freedom), and a tag contains no whitespace,
quote or comma -/
structure EtagOk (etagOf : Nat → Nat → List Nat) : Prop where
  inj : ∀ m s m' s', etagOf m s = etagOf m' s' → m = m' ∧ s = s'
  text : ∀ m s, TagText (etagOf m s)

/-- a `Tag` whose opaque tag is either the entity-tag of the response the request refers to (`text = none`,
filled in by `TagSpec.resolve`) or some other tag -/
structure TagSpec where
  lpad : List Nat
  weak : Bool
  text : Option (List Nat)
  rpad : List Nat

def TagSpec.pieces (s : TagSpec) : List Piece :=
  [.raw (s.lpad ++ (if s.weak then [87, 47] else []) ++ [34]),
   (match s.text with
    | none => .etag
    | some t => .raw t),
   .raw (34 :: s.rpad)]

/-- the template of `member , member , …` -/
def tagPieces : List TagSpec → List Piece
  | [] => []
  | [s] => s.pieces
  | s :: s' :: ss => s.pieces ++ .raw [44] :: tagPieces (s' :: ss)

def TagSpec.resolve (e : List Nat) (s : TagSpec) : Tag := ⟨s.lpad, s.weak, s.text.getD e, s.rpad⟩

def TagSpec.Ok (etagOf : Nat → Nat → List Nat) (s : TagSpec) : Prop :=
  (∀ c ∈ s.lpad, isWs c = true) ∧ (∀ c ∈ s.rpad, isWs c = true) ∧
  ∀ t, s.text = some t → TagText t ∧ ∀ m sz, etagOf m sz ≠ t

/-- response `k` of the trace answers a request that carries validators of response `j`, a 200 -/
def ValidatorsFrom (T : List Resp) (j k : Nat) (rj rk : Resp) : Prop :=
  T[j]? = some rj ∧ T[k]? = some rk ∧ rk.ref = j ∧ j < k ∧ rj.status = 200

instance (T : List Resp) (j k : Nat) (rj rk : Resp) : Decidable (ValidatorsFrom T j k rj rk) := by
  unfold ValidatorsFrom; infer_instance

/-- the clock hypothesis of the property: only the change time is monotone; `mtime` is arbitrary (a
replacement may keep or rewind it) but never in the future (initially: `Wf f0`) -/
abbrev CtimeMonotone (f0 : File) (ops : List Op) : Prop := Clocked 0 false f0 ops

/-- the narrower hypothesis: moreover every modification stamps `mtime = ctime` -/
abbrev Monotone (f0 : File) (ops : List Op) : Prop := Clocked 0 true f0 ops

/-- `b` is `a` or a later state of the file -/
def Reach (g : Nat) (stamped : Bool) (a b : File) : Prop :=
  b = a ∨ (a.ctime + g ≤ b.ctime ∧ (stamped = true → b.mtime = b.ctime))

/-- `answer` with the two outcomes side by side -/
theorem answer_eq (cfg : Cfg) (f : File) (tr : List Resp) (ref : Nat) (ps : List Piece) (lm : Bool) :
    answer cfg f tr ref ps lm =
      let src := validatorsOf tr ref
      let inm := renderInm cfg src ps
      let ims := if lm then src.map cfg.lastMod else none
      let nm := notModified cfg f inm ims
      { ref := ref, pieces := ps, lm := lm, src := src, inm := inm, ims := ims, file := f,
        status := if nm then 304 else 200, body := if nm then none else some f.version,
        etag := if nm then none else some (cfg.etag f),
        lastMod := if nm then none else some (cfg.lastMod f) } := by
  unfold answer
  dsimp only
  cases notModified cfg f _ _ <;> rfl

theorem answer_file (cfg : Cfg) (f : File) (tr : List Resp) (ref : Nat) (ps : List Piece) (lm : Bool) :
    (answer cfg f tr ref ps lm).file = f := by
  rw [answer_eq]

def Answered (cfg : Cfg) (T : List Resp) : Prop :=
  ∀ k rk, T[k]? = some rk → ∃ f ref ps lm, rk = answer cfg f (T.take k) ref ps lm

theorem exec_answered (cfg : Cfg) (ops : List Op) : ∀ (f : File) (tr : List Resp),
    Answered cfg tr → Answered cfg (exec cfg f tr ops) := by
  induction ops with
  | nil => exact fun _ _ h => h
  | cons op ops ih =>
    intro f tr h
    cases op with
    | request ref ps lm =>
      refine ih f _ fun k rk hk => ?_
      rcases Nat.lt_or_ge k tr.length with hlt | hge
      · rw [List.getElem?_append_left hlt] at hk
        rw [List.take_append_of_le_length (Nat.le_of_lt hlt)]
        exact h k rk hk
      · rw [List.getElem?_append_right hge, List.getElem?_singleton] at hk
        split at hk
        · obtain rfl : k = tr.length := by omega
          exact ⟨f, ref, ps, lm, by simpa using hk.symm⟩
        · cases hk
    | _ => exact ih _ tr h

theorem run_answered (cfg : Cfg) (f0 : File) (ops : List Op) : Answered cfg (run cfg f0 ops) :=
  exec_answered cfg ops f0 [] (fun k rk h => by simp at h)

theorem validatorsOf_take (T : List Resp) (k ref : Nat) :
    validatorsOf (T.take k) ref = if ref < k then validatorsOf T ref else none := by
  unfold validatorsOf
  by_cases h : ref < k
  · rw [List.getElem?_take_of_lt h, if_pos h]
  · rw [List.getElem?_take_eq_none (by omega), if_neg h]

theorem Reach.step {g : Nat} {st : Bool} {a f f' : File} (h : Reach g st a f)
    (ht : f.ctime + g ≤ f'.ctime) (hst : st = true → f'.mtime = f'.ctime) : Reach g st a f' := by
  right
  rcases h with rfl | ⟨h1, _⟩
  · exact ⟨ht, hst⟩
  · exact ⟨by omega, hst⟩

/-- The induction behind `ValidatorsFrom.timeline`, generalised over the trace so far: the file of every earlier
response reaches the current file, and the earlier responses reach one another in order. -/
theorem exec_timeline (cfg : Cfg) (g : Nat) (st : Bool) (ops : List Op) : ∀ (f : File) (tr : List Resp),
    Wf f → Clocked g st f ops → (∀ r ∈ tr, Wf r.file ∧ Reach g st r.file f) →
    tr.Pairwise (fun a b => Reach g st a.file b.file) →
    (∀ r ∈ exec cfg f tr ops, Wf r.file) ∧
      (exec cfg f tr ops).Pairwise (fun a b => Reach g st a.file b.file) := by
  induction ops with
  | nil => exact fun f tr _ _ htr hp => ⟨fun r hr => (htr r hr).1, hp⟩
  | cons op ops ih =>
    intro f tr hf hclk htr hp
    cases op with
    | request ref ps lm =>
      refine ih f _ hf hclk.2 (fun r hr => ?_) (List.pairwise_append.mpr ⟨hp, List.pairwise_singleton _ _, ?_⟩)
      · rw [List.mem_append, List.mem_singleton] at hr
        rcases hr with hr | rfl
        · exact htr r hr
        · rw [answer_file]; exact ⟨hf, Or.inl rfl⟩
      · intro a ha b hb
        rw [List.mem_singleton.mp hb, answer_file]
        exact (htr a ha).2
    | _ =>
      obtain ⟨h1, h2, h3⟩ := hclk.1 _ _ rfl
      exact ih _ tr (by simp only [Wf, modify]; omega) hclk.2
        (fun r hr => ⟨(htr r hr).1, (htr r hr).2.step h1 h3⟩) hp

theorem ValidatorsFrom.etag {cfg : Cfg} {f0 : File} {ops : List Op} {j k : Nat} {rj rk : Resp}
    (hv : ValidatorsFrom (run cfg f0 ops) j k rj rk) : rj.etag = some (cfg.etag rj.file) := by
  obtain ⟨hj, _, _, _, h200⟩ := hv
  obtain ⟨f, ref, ps, lm, rfl⟩ := run_answered cfg f0 ops j _ hj
  simp only [answer_eq] at h200 ⊢
  revert h200
  cases notModified cfg f _ _ <;> simp

theorem ValidatorsFrom.response {cfg : Cfg} {f0 : File} {ops : List Op} {j k : Nat} {rj rk : Resp}
    (hv : ValidatorsFrom (run cfg f0 ops) j k rj rk) :
    if notModified cfg rk.file (renderInm cfg (some rj.file) rk.pieces)
        (if rk.lm then some (cfg.lastMod rj.file) else none) then
      rk.status = 304 ∧ rk.body = none
    else
      rk.status = 200 ∧ rk.body = some rk.file.version ∧ rk.etag = some (cfg.etag rk.file) ∧
        rk.lastMod = some (cfg.lastMod rk.file) := by
  obtain ⟨hj, hk, href, hjk, h200⟩ := hv
  obtain ⟨f, ref, ps, lm, rfl⟩ := run_answered cfg f0 ops k _ hk
  rw [answer_eq] at href
  obtain rfl : ref = j := href
  have hsrc : validatorsOf ((run cfg f0 ops).take k) ref = some rj.file := by
    rw [validatorsOf_take, if_pos hjk, validatorsOf, hj]
    exact if_pos h200
  simp only [answer_eq, hsrc, Option.map_some]
  cases notModified cfg f _ _ <;> simp

theorem ValidatorsFrom.timeline {cfg : Cfg} {g : Nat} {st : Bool} {f0 : File} {ops : List Op} {j k : Nat}
    {rj rk : Resp} (hv : ValidatorsFrom (run cfg f0 ops) j k rj rk) (hwf : Wf f0)
    (hclk : Clocked g st f0 ops) : Wf rj.file ∧ Wf rk.file ∧ Reach g st rj.file rk.file := by
  obtain ⟨hW, hP⟩ := exec_timeline cfg g st ops f0 [] hwf hclk (by simp) List.Pairwise.nil
  obtain ⟨hj, rfl⟩ := List.getElem?_eq_some_iff.mp hv.1
  obtain ⟨hk, rfl⟩ := List.getElem?_eq_some_iff.mp hv.2.1
  exact ⟨hW _ (List.getElem_mem hj), hW _ (List.getElem_mem hk),
    List.pairwise_iff_getElem.mp hP j k hj hk hv.2.2.2.1⟩

/-- what the proofs use of the configuration the source prescribes; in particular both interfaces
compare If-Modified-Since with the CHANGE time `st_ctime` -/
def Cfg.Std (cfg : Cfg) (tps : Nat) (etagOf : Nat → Nat → List Nat) : Prop :=
  cfg.inmPrecedence = true ∧ cfg.imsField = Field.ctime ∧ cfg.tps = tps ∧ cfg.etagOf = etagOf

theorem genCfg_facts (i : Iface) (tps : Nat) (e : Nat → Nat → List Nat) : (genCfg i tps e).Std tps e := by
  cases i <;> exact ⟨rfl, rfl, rfl, rfl⟩

private theorem renderInm_pieces (cfg : Cfg) (f : File) (s : TagSpec) :
    renderInm cfg (some f) s.pieces = renderTag (s.resolve (cfg.etag f)) := by
  cases hs : s.text <;>
    simp [renderInm, TagSpec.pieces, renderPiece, renderTag, tagCore, TagSpec.resolve, hs]

private theorem renderInm_tagPieces (cfg : Cfg) (f : File) (specs : List TagSpec) :
    renderInm cfg (some f) (tagPieces specs) = renderTags (specs.map (TagSpec.resolve (cfg.etag f))) := by
  induction specs with
  | nil => rfl
  | cons s ss ih =>
    cases ss with
    | nil => simpa [tagPieces, renderTags] using renderInm_pieces cfg f s
    | cons s' ss =>
      rw [tagPieces, renderInm, List.flatMap_append, List.flatMap_cons, ← renderInm, ← renderInm, ih,
        renderInm_pieces]
      rfl

private theorem resolve_ok {etagOf : Nat → Nat → List Nat} (hE : EtagOk etagOf) (m sz : Nat) (s : TagSpec)
    (h : s.Ok etagOf) : (s.resolve (etagOf m sz)).Ok := by
  refine ⟨h.1, h.2.1, ?_⟩
  cases hs : s.text with
  | none => simpa [TagSpec.resolve, hs] using hE.text m sz
  | some t => simpa [TagSpec.resolve, hs] using (h.2.2 t hs).1

theorem etag_eq_iff {cfg : Cfg} (hE : EtagOk cfg.etagOf) (a b : File) :
    cfg.etag a = cfg.etag b ↔ a.mtime = b.mtime ∧ a.size = b.size :=
  ⟨hE.inj _ _ _ _, fun ⟨h1, h2⟩ => by simp [Cfg.etag, h1, h2]⟩

/-- a non-empty list of tags decides alone: If-Modified-Since is not looked at -/
theorem notModified_tags {cfg : Cfg} (hprec : cfg.inmPrecedence = true) (hE : EtagOk cfg.etagOf)
    (f sj : File) {specs : List TagSpec} (hne : specs ≠ []) (hok : ∀ s ∈ specs, s.Ok cfg.etagOf)
    (ims : Option Nat) :
    notModified cfg f (renderInm cfg (some sj) (tagPieces specs)) ims = true ↔
      ((f.mtime = sj.mtime ∧ f.size = sj.size) ∧ ∃ s ∈ specs, s.text = none) := by
  have htags : ∀ t ∈ specs.map (TagSpec.resolve (cfg.etag sj)), t.Ok := by
    intro t ht
    obtain ⟨s, hs', rfl⟩ := List.mem_map.mp ht
    exact resolve_ok hE sj.mtime sj.size s (hok s hs')
  rw [renderInm_tagPieces, notModified, if_pos hprec, renderTags_ne_nil _ (by simpa using hne)]
  simp only [Bool.not_false, if_true]
  rw [ifNoneMatch_renderTags _ _ htags]
  constructor
  · rintro ⟨t, ht, hte⟩
    obtain ⟨s, hs', rfl⟩ := List.mem_map.mp ht
    cases hst : s.text with
    | none =>
      simp only [TagSpec.resolve, hst, Option.getD_none] at hte
      exact ⟨((etag_eq_iff hE _ _).mp hte.symm), s, hs', hst⟩
    | some t' =>
      simp only [TagSpec.resolve, hst, Option.getD_some] at hte
      exact absurd hte.symm (((hok s hs').2.2 t' hst).2 f.mtime f.size)
  · rintro ⟨heq, s, hs', hst⟩
    refine ⟨s.resolve (cfg.etag sj), List.mem_map.mpr ⟨s, hs', rfl⟩, ?_⟩
    simp only [TagSpec.resolve, hst, Option.getD_none]
    exact ((etag_eq_iff hE _ _).mpr heq).symm

theorem notModified_nil {cfg : Cfg} (hprec : cfg.inmPrecedence = true) (f : File) (src : Option File)
    (ims : Option Nat) :
    notModified cfg f (renderInm cfg src []) ims = ifModifiedSince cfg.tps (cfg.imsField.get f) ims := by
  simp [notModified, hprec, renderInm]

theorem secs_mono (tps : Nat) {a b : Nat} (h : a ≤ b) : secs tps a ≤ secs tps b :=
  Nat.div_le_div_right h

theorem secs_lt {tps a b : Nat} (htps : 0 < tps) (h : a + tps ≤ b) : secs tps a < secs tps b :=
  Nat.lt_of_lt_of_le (Nat.lt_of_lt_of_eq (Nat.lt_succ_self _) (Nat.add_div_right a htps).symm) (secs_mono tps h)

/-- the decision sees a modification above the resolution of the validators the request carries; with
Last-Modified alone that rests on If-Modified-Since being compared with the change time -/
theorem notModified_of_modified {cfg : Cfg} {tps : Nat} {etagOf : Nat → Nat → List Nat}
    (hc : cfg.Std tps etagOf) (htps : 0 < tps) (hE : EtagOk etagOf) {f sj : File} (hwj : Wf sj) (hwf : Wf f)
    {specs : List TagSpec} (hok : ∀ s ∈ specs, s.Ok etagOf) (lm : Bool)
    (hmod : (specs ≠ [] ∧ (f.size ≠ sj.size ∨ f.mtime ≠ sj.mtime)) ∨
            (specs = [] ∧ (sj.ctime + tps ≤ f.ctime ∨ sj.mtime + tps ≤ f.mtime))) :
    notModified cfg f (renderInm cfg (some sj) (tagPieces specs))
      (if lm then some (cfg.lastMod sj) else none) = false := by
  obtain ⟨hprec, hfield, rfl, rfl⟩ := hc
  by_cases hne : specs = []
  · subst hne
    rw [tagPieces, notModified_nil hprec, hfield]
    cases lm
    · rfl
    · -- either way the change time is a full second past the advertised `mtime` (`Wf` of both files)
      have hm : sj.mtime + cfg.tps ≤ f.ctime := by
        have := (hmod.resolve_left fun h => h.1 rfl).2
        unfold Wf at hwj hwf
        omega
      have := secs_lt htps hm
      exact decide_eq_false (by simp only [Field.get, Cfg.lastMod]; omega)
  · rw [Bool.eq_false_iff, Ne, notModified_tags hprec hE _ _ hne hok]
    rintro ⟨⟨h1, h2⟩, _⟩
    rcases hmod with ⟨_, h | h⟩ | ⟨h, _⟩
    · exact h h2
    · exact h h1
    · exact hne h

/-- how the file `fk` that got a 304 stands to the file `fj` whose validators the request carried, when it
is not that very file (gap `g` between modifications, `st` as in `Clocked`) -/
structure Stale304 (tps g : Nat) (st : Bool) (specs : List TagSpec) (fj fk : File) : Prop where
  /-- the change time now is `g` ticks past the `mtime` that `fj` advertised as Last-Modified (`Wf fj`, and
  one modification at least since): what the seconds of the two are compared through -/
  gap : fj.mtime + g ≤ fk.ctime
  /-- with `st = true` the last modification stamped `mtime`, so by `gap` (`0 < g`) it is not that of `fj` -/
  stamped : st = true → fk.mtime = fk.ctime
  /-- the change is below the resolution of the validators used: entity-tags see `mtime` and `size` only,
  Last-Modified alone whole seconds -/
  unseen : (specs ≠ [] ∧ fk.mtime = fj.mtime ∧ fk.size = fj.size) ∨
    (specs = [] ∧ secs tps fk.ctime ≤ secs tps fj.mtime)

/-- what a 304 to a request carrying validators of response `j` says, for any gap `g` between modifications -/
theorem stale_core {cfg : Cfg} {tps : Nat} {etagOf : Nat → Nat → List Nat} (hc : cfg.Std tps etagOf)
    (hE : EtagOk etagOf) {g : Nat} {st : Bool} {f0 : File} {ops : List Op} (hwf : Wf f0)
    (hclk : Clocked g st f0 ops) {j k : Nat} {rj rk : Resp}
    (hv : ValidatorsFrom (run cfg f0 ops) j k rj rk) (specs : List TagSpec)
    (hp : rk.pieces = tagPieces specs) (hok : ∀ s ∈ specs, s.Ok etagOf) (h304 : rk.status = 304) :
    rk.file = rj.file ∨ Stale304 tps g st specs rj.file rk.file := by
  obtain ⟨hprec, hfield, rfl, rfl⟩ := hc
  obtain ⟨hwj, _, hreach⟩ := hv.timeline hwf hclk
  have hnm : notModified cfg rk.file (renderInm cfg (some rj.file) (tagPieces specs))
      (if rk.lm then some (cfg.lastMod rj.file) else none) = true := by
    have h := hv.response
    rw [hp] at h
    refine Decidable.byContradiction fun hn => ?_
    rw [if_neg hn, h304] at h
    exact absurd h.1 (by decide)
  rcases hreach with h | ⟨hgap, hst⟩
  · exact Or.inl h
  · refine Or.inr ⟨by unfold Wf at hwj; omega, hst, ?_⟩
    by_cases hne : specs = []
    · subst hne
      rw [tagPieces, notModified_nil hprec, hfield] at hnm
      -- a request with neither validator gets no 304: `ifModifiedSince _ _ none = false`
      cases hl : rk.lm <;> rw [hl] at hnm
      · cases hnm
      · exact Or.inr ⟨rfl, of_decide_eq_true hnm⟩
    · exact Or.inl ⟨hne, ((notModified_tags hprec hE _ _ hne hok _).mp hnm).1⟩

theorem fresh_gets_304 {cfg : Cfg} {tps : Nat} {etagOf : Nat → Nat → List Nat} (hc : cfg.Std tps etagOf)
    (hE : EtagOk etagOf) {f0 : File} {ops : List Op} {j k : Nat} {rj rk : Resp}
    (hv : ValidatorsFrom (run cfg f0 ops) j k rj rk) (specs : List TagSpec)
    (hp : rk.pieces = tagPieces specs) (hok : ∀ s ∈ specs, s.Ok etagOf)
    (hlisted : ∃ s ∈ specs, s.text = none)
    (hsame : rk.file.mtime = rj.file.mtime ∧ rk.file.size = rj.file.size) :
    rk.status = 304 ∧ rk.body = none := by
  obtain ⟨hprec, _, rfl, rfl⟩ := hc
  have hne : specs ≠ [] := by
    obtain ⟨s, hs, _⟩ := hlisted
    exact List.ne_nil_of_mem hs
  have h := hv.response
  rwa [hp, if_pos ((notModified_tags hprec hE _ _ hne hok _).mpr ⟨hsame, hlisted⟩)] at h

theorem star_gets_304 {cfg : Cfg} (hprec : cfg.inmPrecedence = true) {f0 : File} {ops : List Op} {k : Nat}
    {rk : Resp} (hk : (run cfg f0 ops)[k]? = some rk) (hstar : rk.inm = [42]) :
    rk.status = 304 ∧ rk.body = none := by
  obtain ⟨f, ref, ps, lm, rfl⟩ := run_answered cfg f0 ops k rk hk
  simp only [answer_eq] at hstar ⊢
  simp [hstar, notModified, hprec, ifNoneMatch, ifNoneMatchWith, star]

theorem lm_gets_304 {cfg : Cfg} {tps : Nat} {etagOf : Nat → Nat → List Nat} (hc : cfg.Std tps etagOf)
    {f0 : File} {ops : List Op} {j k : Nat} {rj rk : Resp}
    (hv : ValidatorsFrom (run cfg f0 ops) j k rj rk) (hp : rk.pieces = []) (hlm : rk.lm = true)
    (hsame : rk.file = rj.file) (hsec : secs tps rj.file.ctime ≤ secs tps rj.file.mtime) :
    rk.status = 304 ∧ rk.body = none := by
  obtain ⟨hprec, hfield, rfl, _⟩ := hc
  have h := hv.response
  rw [hp, hlm, hsame, notModified_nil hprec, hfield] at h
  exact (if_pos (decide_eq_true hsec)).mp h

theorem plain_gets_200 {cfg : Cfg} {tps : Nat} {etagOf : Nat → Nat → List Nat} (hc : cfg.Std tps etagOf)
    {f0 : File} {ops : List Op} {k : Nat} {rk : Resp} (hk : (run cfg f0 ops)[k]? = some rk)
    (hp : rk.pieces = []) (hlm : rk.lm = false) :
    rk.status = 200 ∧ rk.body = some rk.file.version ∧ rk.etag = some (etagOf rk.file.mtime rk.file.size) ∧
      rk.lastMod = some (secs tps rk.file.mtime) := by
  obtain ⟨hprec, _, rfl, rfl⟩ := hc
  obtain ⟨f, ref, ps, lm, rfl⟩ := run_answered cfg f0 ops k rk hk
  simp only [answer_eq] at hp hlm ⊢
  subst hp hlm
  simp [notModified_nil hprec, ifModifiedSince, Cfg.etag, Cfg.lastMod]

end Baize.Conditional
