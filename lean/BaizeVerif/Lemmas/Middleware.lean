/-
The theory behind Props/C20.lean.  The folding `Headers` mapping: `foldInsert` and `setItem` are one write operation
(`upsert`, proof-side), which keeps the mapping's invariant (`Inv`: distinct lower-cased keys).  `unfoldLines` of an
unedited mapping writes the captured lines grouped by name (`group`), hence a permutation of them (`relay_ident`); an
edit of one name leaves the lines of the other names alone (`relay_set_other`, `relay_set_self`).  Last, what one layer
`wrapW` / `wrapA` computes, in closed form.
-/
import BaizeVerif.Model.Middleware
import BaizeVerif.Lemmas.Text

namespace Baize.Middleware

theorem lowerC_idem (c : Nat) : lowerC (lowerC c) = lowerC c := by
  unfold lowerC
  grind

theorem lower_idem (s : Bytes) : lower (lower s) = lower s := by
  simp [lower, lowerC_idem]

theorem lowerC_lt (c : Nat) (h : c < 256) : lowerC c < 256 := by
  unfold lowerC
  split
  · omega
  · split <;> omega

theorem latin1_lower (s : Bytes) (h : latin1 s = true) : latin1 (lower s) = true := by
  simp only [latin1, lower, List.all_map, List.all_eq_true, decide_eq_true_eq, Function.comp] at *
  exact fun c hc => lowerC_lt c (h c hc)

theorem normH_idem (l : List Hdr) : normH (normH l) = normH l := by
  simp [normH, lower_idem]

/-! `Headers.__init__` and `MutableHeaders.__setitem__` write in the same way: the entry named `k` gets `f` of its
value, or, if there is none, `(k, v)` is appended. -/

def upsert (d : Dict) (k : Bytes) (f : Bytes → Bytes) (v : Bytes) : Dict :=
  if k ∈ keys d then d.map fun e => if e.1 = k then (e.1, f e.2) else e else d ++ [(k, v)]

theorem foldInsert_eq (d : Dict) (kv : Hdr) :
    foldInsert d kv = upsert d (lower kv.1) (· ++ Gen.Middleware.foldSep ++ kv.2) kv.2 := rfl

theorem setItem_eq (d : Dict) (k v : Bytes) : setItem d k v = upsert d (lower k) (fun _ => v) v := rfl

theorem keys_upsert (d : Dict) (k : Bytes) (f : Bytes → Bytes) (v : Bytes) :
    keys (upsert d k f v) = if k ∈ keys d then keys d else keys d ++ [k] := by
  unfold upsert
  split
  · simp only [keys, List.map_map]
    exact List.map_congr_left fun e _ => by simp only [Function.comp]; split <;> rfl
  · simp [keys]

theorem keys_foldInsert (d : Dict) (kv : Hdr) :
    keys (foldInsert d kv) = if lower kv.1 ∈ keys d then keys d else keys d ++ [lower kv.1] :=
  keys_upsert d (lower kv.1) (· ++ Gen.Middleware.foldSep ++ kv.2) kv.2

theorem keys_setItem (d : Dict) (k v : Bytes) :
    keys (setItem d k v) = if lower k ∈ keys d then keys d else keys d ++ [lower k] :=
  keys_upsert d (lower k) (fun _ => v) v

theorem mem_keys_upsert {d : Dict} {k : Bytes} {f : Bytes → Bytes} {v k' : Bytes} :
    k' ∈ keys (upsert d k f v) ↔ k' ∈ keys d ∨ k' = k := by
  rw [keys_upsert]
  split
  · exact ⟨.inl, fun h => h.elim id (· ▸ ‹_›)⟩
  · simp

theorem mem_upsert {d : Dict} {k : Bytes} {f : Bytes → Bytes} {v : Bytes} {e : Hdr} (he : e ∈ upsert d k f v) :
    ∃ e' ∈ d ++ [(k, v)], e.1 = e'.1 ∧ (e.2 = e'.2 ∨ e.2 = f e'.2) := by
  unfold upsert at he
  split at he
  · obtain ⟨e', he', rfl⟩ := List.mem_map.1 he
    refine ⟨e', List.mem_append_left _ he', ?_⟩
    split <;> simp
  · exact ⟨e, he, rfl, .inl rfl⟩

theorem filter_ne_upsert (d : Dict) (k : Bytes) (f : Bytes → Bytes) (v : Bytes) :
    (upsert d k f v).filter (fun e => decide (e.1 ≠ k)) = d.filter (fun e => decide (e.1 ≠ k)) := by
  unfold upsert
  split
  · rename_i hm
    clear hm
    induction d with
    | nil => rfl
    | cons e es ih => by_cases he : e.1 = k <;> simp_all
  · simp

theorem filter_ne_setItem (d : Dict) (k v : Bytes) :
    (setItem d k v).filter (fun e => decide (e.1 ≠ lower k)) = d.filter (fun e => decide (e.1 ≠ lower k)) :=
  filter_ne_upsert d (lower k) (fun _ => v) v

theorem filter_eq_lookup (d : Dict) (k : Bytes) (hd : (keys d).Nodup) :
    d.filter (fun e => decide (e.1 = k)) = ((lookup d k).map fun v => (k, v)).toList := by
  induction d with
  | nil => rfl
  | cons e es ih =>
    rw [keys, List.map_cons, List.nodup_cons] at hd
    by_cases he : e.1 = k
    · subst he
      have : es.filter (fun x => decide (x.1 = e.1)) = [] :=
        List.filter_eq_nil_iff.2 fun _ hx hk => hd.1 (of_decide_eq_true hk ▸ List.mem_map_of_mem hx)
      simp [lookup, this]
    · simpa [lookup, he] using ih hd.2

theorem lookup_append (d d' : Dict) (k : Bytes) : lookup (d ++ d') k = (lookup d k).or (lookup d' k) := by
  induction d with
  | nil => simp [lookup]
  | cons e es ih => simp only [List.cons_append, lookup]; split <;> simp [ih]

theorem lookup_upsert_other (d : Dict) (k : Bytes) (f : Bytes → Bytes) (v k' : Bytes) (h : k' ≠ k) :
    lookup (upsert d k f v) k' = lookup d k' := by
  unfold upsert
  split
  · rename_i hm
    clear hm
    induction d with
    | nil => rfl
    | cons e es ih => by_cases he : e.1 = k <;> simp_all [lookup, Ne.symm h]
  · simp [lookup_append, lookup, Ne.symm h]

theorem lookup_upsert_self (d : Dict) (k : Bytes) (f : Bytes → Bytes) (v : Bytes) :
    lookup (upsert d k f v) k = some (((lookup d k).map f).getD v) := by
  unfold upsert
  split <;> rename_i hm
  · induction d with
    | nil => simp [keys] at hm
    | cons e es ih =>
      by_cases he : e.1 = k
      · simp [lookup, he]
      · simpa [lookup, he] using ih (by simpa [keys, Ne.symm he] using hm)
  · induction d with
    | nil => simp [lookup]
    | cons e es ih =>
      simp only [keys, List.map_cons, List.mem_cons, not_or] at hm
      simpa [lookup, Ne.symm hm.1] using ih hm.2

theorem lookup_setItem_self (d : Dict) (k v : Bytes) : lookup (setItem d k v) (lower k) = some v := by
  rw [setItem_eq, lookup_upsert_self]
  cases lookup d (lower k) <;> rfl

theorem lookup_setItem_other (d : Dict) (k v k' : Bytes) (h : k' ≠ lower k) :
    lookup (setItem d k v) k' = lookup d k' :=
  lookup_upsert_other d (lower k) (fun _ => v) v k' h

/-- what the `_dict` of every `Headers` object satisfies -/
def Inv (d : Dict) : Prop := (keys d).Nodup ∧ ∀ e ∈ d, lower e.1 = e.1

theorem inv_upsert {d : Dict} (h : Inv d) {k : Bytes} (hk : lower k = k) (f : Bytes → Bytes) (v : Bytes) :
    Inv (upsert d k f v) := by
  refine ⟨?_, fun e he => ?_⟩
  · rw [keys_upsert]
    split
    · exact h.1
    · exact List.nodup_append.2 ⟨h.1, by simp, fun a ha b hb => by simp_all; rintro rfl; contradiction⟩
  · obtain ⟨e', he', h1, _⟩ := mem_upsert he
    rw [h1]
    rcases List.mem_append.1 he' with he' | he'
    · exact h.2 e' he'
    · simp_all

theorem inv_setItem (d : Dict) (k v : Bytes) (h : Inv d) : Inv (setItem d k v) :=
  inv_upsert h (lower_idem k) (fun _ => v) v

theorem foldl_foldInsert (l : List Hdr) (d : Dict) (h : Inv d) :
    Inv (l.foldl foldInsert d) ∧ ∀ k, k ∈ keys (l.foldl foldInsert d) ↔ k ∈ keys d ∨ ∃ r ∈ l, lower r.1 = k := by
  induction l generalizing d with
  | nil => simp [h]
  | cons x xs ih =>
    have hx : Inv (foldInsert d x) := inv_upsert h (lower_idem x.1) (· ++ Gen.Middleware.foldSep ++ x.2) x.2
    refine ⟨(ih _ hx).1, fun k => ?_⟩
    rw [List.foldl_cons, (ih _ hx).2, foldInsert_eq, mem_keys_upsert]
    simp only [List.mem_cons, or_and_right, exists_or, exists_eq_left', or_assoc, eq_comm]

theorem inv_foldHeaders (l : List Hdr) : Inv (foldHeaders l) := (foldl_foldInsert l [] ⟨by simp [keys], by simp⟩).1

theorem keys_cover (l : List Hdr) (r : Hdr) (h : r ∈ l) : lower r.1 ∈ keys (foldHeaders l) :=
  ((foldl_foldInsert l [] ⟨by simp [keys], by simp⟩).2 _).2 (.inr ⟨r, h, rfl⟩)

theorem lookup_of_mem (d : Dict) (hd : (keys d).Nodup) (e : Hdr) (he : e ∈ d) : lookup d e.1 = some e.2 := by
  induction d with
  | nil => cases he
  | cons x xs ih =>
    simp only [keys, List.map_cons, List.nodup_cons] at hd
    rcases List.mem_cons.1 he with rfl | he
    · simp [lookup]
    · have hne : x.1 ≠ e.1 := fun hx => hd.1 (hx ▸ List.mem_map_of_mem he)
      simpa [lookup, hne] using ih hd.2 he

theorem foldl_fresh (l : List Hdr) (s : Dict) (hn : (keys s ++ keys l).Nodup) (hl : ∀ e ∈ l, lower e.1 = e.1) :
    l.foldl foldInsert s = s ++ l := by
  induction l generalizing s with
  | nil => simp
  | cons x xs ih =>
    have hx : lower x.1 = x.1 := hl x (by simp)
    have hnot : lower x.1 ∉ keys s := by
      rw [hx]
      exact fun hm => (List.nodup_append.1 hn).2.2 _ hm _ (by simp [keys]) rfl
    have hstep : foldInsert s x = s ++ [x] := by rw [foldInsert, if_neg hnot, hx]
    rw [List.foldl_cons, hstep, ih (s ++ [x]) (by simpa [keys, List.append_assoc] using hn)
      fun e he => hl e (by simp [he])]
    simp

/-- `wrapW` / `wrapA` fold twice, as baize does (`Headers(raw)` in `from_app`, then `MutableHeaders(headers)` in
`BaseResponse.__init__`); the second fold finds nothing to fold -/
theorem foldHeaders_idem (l : List Hdr) : foldHeaders (foldHeaders l) = foldHeaders l := by
  have h := inv_foldHeaders l
  simpa [foldHeaders] using foldl_fresh (foldHeaders l) [] (by simpa [keys] using h.1) h.2

theorem mem_unfoldLines {d : Dict} {raw : List Hdr} {x : Hdr} (hx : x ∈ unfoldLines d raw) :
    ∃ e ∈ d, x.1 = e.1 ∧ (x.2 = e.2 ∨ ∃ r ∈ raw, x.2 = r.2) := by
  simp only [unfoldLines, List.mem_flatMap] at hx
  obtain ⟨e, he, hx⟩ := hx
  refine ⟨e, he, ?_⟩
  split at hx
  · obtain ⟨r, hr, rfl⟩ := List.mem_map.1 hx
    exact ⟨rfl, .inr ⟨r, (List.mem_filter.1 hr).1, rfl⟩⟩
  · simp_all

theorem normH_unfoldLines (d : Dict) (raw : List Hdr) (hd : ∀ e ∈ d, lower e.1 = e.1) :
    normH (unfoldLines d raw) = unfoldLines d raw := by
  refine (List.map_congr_left fun x hx => ?_).trans (List.map_id _)
  obtain ⟨e, he, h1, _⟩ := mem_unfoldLines hx
  rw [h1, hd e he, ← h1]
  rfl

theorem unfoldLines_filter (p : Bytes → Bool) (d : Dict) (raw : List Hdr) :
    (unfoldLines d raw).filter (fun x => p x.1) = unfoldLines (d.filter fun e => p e.1) raw := by
  induction d with
  | nil => rfl
  | cons e es ih =>
    have hkey : ∀ x ∈ unfoldLines [e] raw, x.1 = e.1 := fun x hx => by
      obtain ⟨_, he, h1, _⟩ := mem_unfoldLines hx
      rw [h1, List.mem_singleton.1 he]
    have hcons : ∀ l, unfoldLines (e :: l) raw = unfoldLines [e] raw ++ unfoldLines l raw := fun l => by
      simp [unfoldLines]
    rw [hcons es, List.filter_append, ih, List.filter_cons]
    split
    · rw [hcons (es.filter _), List.filter_eq_self.2 fun x hx => by rw [hkey x hx]; assumption]
    · rw [List.filter_eq_nil_iff.2 fun x hx => by rw [hkey x hx]; assumption, List.nil_append]

/-- the lines of `l` grouped by name, the names in the order `ks`: how `unfoldLines` writes out an unedited mapping
(`unfoldLines_folded`) -/
def group (ks : List Bytes) (l : List Hdr) : List Hdr := ks.flatMap fun k => l.filter fun x => x.1 = k

theorem group_filter_ne (ks : List Bytes) (l : List Hdr) (k : Bytes) (hk : k ∉ ks) :
    group ks (l.filter fun x => decide (x.1 ≠ k)) = group ks l := by
  unfold group
  rw [List.flatMap_def, List.flatMap_def]
  refine congrArg _ (List.map_congr_left fun a ha => ?_)
  rw [List.filter_filter]
  refine List.filter_congr fun x _ => ?_
  by_cases hx : x.1 = a
  · simp [hx, show a ≠ k from fun h => hk (h ▸ ha)]
  · simp [hx]

theorem group_perm (ks : List Bytes) (l : List Hdr) (hn : ks.Nodup) (hc : ∀ x ∈ l, x.1 ∈ ks) :
    (group ks l).Perm l := by
  induction ks generalizing l with
  | nil =>
    cases l with
    | nil => exact .nil
    | cons x xs => exact absurd (hc x (by simp)) (by simp)
  | cons k ks ih =>
    obtain ⟨hk, hn⟩ := List.nodup_cons.1 hn
    -- the lines named `k` first, then (induction) the groups of the rest
    have h2 := ih (l.filter fun x => decide (x.1 ≠ k)) hn fun x hx => by
      obtain ⟨hx, hxk⟩ := List.mem_filter.1 hx
      exact (List.mem_cons.1 (hc x hx)).resolve_left (of_decide_eq_true hxk)
    rw [group_filter_ne ks l k hk] at h2
    rw [group, List.flatMap_cons]
    refine (h2.append_left _).trans ?_
    simpa only [decide_not] using List.filter_append_perm (fun x => decide (x.1 = k)) l

theorem unfoldLines_folded (raw : List Hdr) :
    unfoldLines (foldHeaders raw) raw = group (keys (foldHeaders raw)) (normH raw) := by
  unfold unfoldLines group keys
  rw [List.flatMap_map, List.flatMap_def, List.flatMap_def]
  refine congrArg _ (List.map_congr_left fun e he => ?_)
  rw [if_pos (lookup_of_mem _ (inv_foldHeaders raw).1 e he), normH, List.filter_map]
  exact List.map_congr_left fun r hr => by rw [← of_decide_eq_true (List.mem_filter.1 hr).2]

theorem relay_ident (raw : List Hdr) :
    (normH (unfoldLines (foldHeaders raw) raw)).Perm (normH raw) := by
  rw [normH_unfoldLines _ _ (inv_foldHeaders raw).2, unfoldLines_folded]
  refine group_perm _ _ (inv_foldHeaders raw).1 fun x hx => ?_
  obtain ⟨r, hr, rfl⟩ := List.mem_map.1 hx
  exact keys_cover raw r hr

theorem relay_set_other (raw : List Hdr) (k v : Bytes) :
    ((normH (unfoldLines (setItem (foldHeaders raw) k v) raw)).filter fun x => decide (x.1 ≠ lower k)).Perm
      ((normH raw).filter fun x => decide (x.1 ≠ lower k)) := by
  rw [normH_unfoldLines _ _ (inv_setItem _ k v (inv_foldHeaders raw)).2,
    unfoldLines_filter (fun n => decide (n ≠ lower k)), filter_ne_setItem,
    ← unfoldLines_filter (fun n => decide (n ≠ lower k)), ← normH_unfoldLines _ _ (inv_foldHeaders raw).2]
  exact (relay_ident raw).filter _

/-- `hne`: the handler did not write back the folded value it read -/
theorem relay_set_self (raw : List Hdr) (k v : Bytes) (hne : lookup (foldHeaders raw) (lower k) ≠ some v) :
    (normH (unfoldLines (setItem (foldHeaders raw) k v) raw)).filter (fun x => decide (x.1 = lower k))
      = [(lower k, v)] := by
  have hinv := inv_setItem _ k v (inv_foldHeaders raw)
  rw [normH_unfoldLines _ _ hinv.2, unfoldLines_filter (fun n => decide (n = lower k)),
    filter_eq_lookup _ _ hinv.1, lookup_setItem_self]
  simp [unfoldLines, hne]

theorem natDigits_eq (n : Nat) : natDigits n = Decimal.digits n :=
  Decimal.eq_digits_of_fuel (r := natDigitsFuel) (fun _ _ => rfl) n n (Nat.div_le_self n 10)

theorem natDigits_spec (n : Nat) :
    digitsVal (natDigits n) = n ∧ (natDigits n).all isDigit = true ∧ natDigits n ≠ [] := by
  rw [natDigits_eq]
  refine ⟨Decimal.foldl_digits n, ?_, Decimal.digits_ne_nil n⟩
  rw [List.all_eq_true]
  intro c hc
  simpa [isDigit] using Decimal.mem_digits hc

theorem parseStatus_digits_then_sep (n : Nat) (rest : Bytes) :
    parseStatus (natDigits n ++ Gen.Middleware.statusSplitChar :: rest) = some n := by
  obtain ⟨h1, h2, h3⟩ := natDigits_spec n
  have htok : firstToken (natDigits n ++ Gen.Middleware.statusSplitChar :: rest) = natDigits n :=
    (List.span_append_stop
      (fun c hc => by
        have := List.all_eq_true.mp h2 c hc
        simp only [decide_eq_true_eq]
        rintro rfl
        exact absurd this (by decide))
      (.inr ⟨_, _, rfl, by decide⟩)).1
  simp [parseStatus, htok, h1, h2, h3]

theorem tableLookup_mem (t : List (Nat × Bytes)) (n : Nat) (x : Bytes) (h : tableLookup t n = some x) : (n, x) ∈ t := by
  induction t with
  | nil => simp [tableLookup] at h
  | cons p ps ih =>
    obtain ⟨c, tx⟩ := p
    unfold tableLookup at h
    split at h
    · rename_i hc
      simp only [Option.some.injEq] at h
      simp [hc, h]
    · exact List.mem_cons_of_mem _ (ih h)

theorem statusTable_parses : ∀ p ∈ Gen.Middleware.statusTable, parseStatus p.2 = some p.1 := by decide

theorem relayRun_cons_ok (r r' : Relay) (e : AEv) (es : List AEv) (h : relayStep r e = .ok r') :
    relayRun r (e :: es) = relayRun r' es := by
  rw [relayRun, h]

theorem relayRun_bodies (bs : List AEv) (r : Relay) (hb : bodiesOk bs = true) (he : r.eof = false) :
    relayRun r bs = .ok { r with buf := r.buf ++ (bs.map evData).flatten, eof := true } := by
  induction bs generalizing r with
  | nil => simp [bodiesOk] at hb
  | cons e es ih =>
    cases e
    case start | other => simp [bodiesOk] at hb
    case body d m | zerocopy d m =>
      rw [relayRun_cons_ok r { r with buf := r.buf ++ d, eof := !m } _ _ (by simp [relayStep, he])]
      cases es with
      | nil =>
        simp only [bodiesOk, Bool.not_eq_true'] at hb
        simp [relayRun, hb, evData]
      | cons e' es' =>
        simp only [bodiesOk, Bool.and_eq_true] at hb
        rw [ih _ hb.2 (by simp [hb.1])]
        simp [evData, List.append_assoc]

theorem piecesFuel_flatten (n fuel : Nat) (l : Bytes) (hn : 0 < n) (hf : l.length ≤ fuel) :
    (piecesFuel n fuel l).flatten = l := by
  induction fuel generalizing l with
  | zero => simp [piecesFuel, List.eq_nil_of_length_eq_zero (Nat.le_zero.1 hf)]
  | succ f ih =>
    unfold piecesFuel
    split
    · simp_all
    · rename_i h
      have := List.length_pos_iff.2 h
      rw [List.flatten_cons, ih (l.drop n) (by simp only [List.length_drop]; omega), List.take_append_drop]

theorem pieces_flatten (n : Nat) (l : Bytes) (hn : 0 < n) : (pieces n l).flatten = l :=
  piecesFuel_flatten n l.length l hn (Nat.le_refl _)

/-- the body events `NextResponse.__call__` sends for the re-read pieces `ps`: a legal body sequence carrying them -/
theorem reread_bodies (ps : List Bytes) :
    bodiesOk (ps.map (fun p => AEv.body p true) ++ [AEv.body [] false]) = true ∧
    ((ps.map (fun p => AEv.body p true) ++ [AEv.body [] false]).map evData).flatten = ps.flatten := by
  induction ps with
  | nil => simp [bodiesOk, evData]
  | cons p ps ih =>
    cases hps : (ps.map (fun p => AEv.body p true) ++ [AEv.body [] false]) with
    | nil => simp at hps
    | cons x xs => simp_all [bodiesOk, evData]

theorem headersLatin1_iff (l : List Hdr) :
    headersLatin1 l = true ↔ ∀ e ∈ l, latin1 e.1 = true ∧ latin1 e.2 = true := by
  simp [headersLatin1, List.all_eq_true, Bool.and_eq_true]

theorem headersLatin1_upsert {d : Dict} (hd : headersLatin1 d = true) {k v : Bytes} (hk : latin1 k = true)
    (hv : latin1 v = true) {f : Bytes → Bytes} (hf : ∀ x, latin1 x = true → latin1 (f x) = true) :
    headersLatin1 (upsert d k f v) = true := by
  rw [headersLatin1_iff] at hd ⊢
  intro e he
  obtain ⟨e', he', h1, h2⟩ := mem_upsert he
  have : latin1 e'.1 = true ∧ latin1 e'.2 = true := by
    rcases List.mem_append.1 he' with he' | he'
    · exact hd e' he'
    · simp_all
  rcases h2 with h2 | h2 <;> simp_all

theorem headersLatin1_foldHeaders (l : List Hdr) (hl : headersLatin1 l = true) :
    headersLatin1 (foldHeaders l) = true := by
  suffices ∀ d, headersLatin1 d = true → headersLatin1 (l.foldl foldInsert d) = true from this [] rfl
  induction l with
  | nil => exact fun _ hd => hd
  | cons x xs ih =>
    obtain ⟨hx, hxs⟩ := Bool.and_eq_true_iff.mp hl
    obtain ⟨hx1, hx2⟩ := Bool.and_eq_true_iff.mp hx
    exact fun d hd => ih hxs _
      (headersLatin1_upsert (f := (· ++ Gen.Middleware.foldSep ++ x.2)) hd (latin1_lower _ hx1) hx2
        fun y hy => by simp_all [latin1, List.all_append, Gen.Middleware.foldSep])

theorem headersLatin1_setItem (d : Dict) (k v : Bytes) (hd : headersLatin1 d = true) (hk : latin1 k = true)
    (hv : latin1 v = true) : headersLatin1 (setItem d k v) = true :=
  headersLatin1_upsert hd (latin1_lower _ hk) hv fun _ _ => hv

theorem headersLatin1_unfoldLines (d : Dict) (raw : List Hdr) (hd : headersLatin1 d = true)
    (hr : headersLatin1 raw = true) : headersLatin1 (unfoldLines d raw) = true := by
  rw [headersLatin1_iff] at hd hr ⊢
  intro x hx
  obtain ⟨e, he, h1, h2 | ⟨r, hr', h2⟩⟩ := mem_unfoldLines hx
  · rw [h1, h2]; exact hd e he
  · rw [h1, h2]; exact ⟨(hd e he).1, (hr r hr').2⟩

theorem Handler.apply_setHeader {k v : Bytes} (hk : hasCtl k = false) (hv : hasCtl v = false) (d : Dict) :
    (Handler.setHeader k v).apply d = .ok (setItem d k v) := by
  simp [Handler.apply, hk, hv]

theorem WApp.legal_cases (a : WApp) (h : a.legal = true) :
    (a.startAt = some 0 ∧ ∃ c, parseStatus a.status = some c) ∨
    (a.startAt = none ∧ a.chunks = [] ∧ a.err.isSome = true) := by
  simp only [WApp.legal, Bool.or_eq_true, Bool.and_eq_true, decide_eq_true_eq] at h
  rcases h with h | h
  · exact .inl ⟨h.1, Option.isSome_iff_exists.1 h.2⟩
  · exact .inr ⟨h.1.1, h.1.2, h.2⟩

theorem captureAbort_legal (a : WApp) (hl : a.legal = true) : captureAbort a = a := by
  rcases a.legal_cases hl with ⟨hs, c, hp⟩ | ⟨hs, _⟩
  · simp [captureAbort, hs, hp]
  · simp [captureAbort, hs]

theorem wrapW_ok (h : Handler) (a : WApp) (c : Nat) (d : Dict) (hs : a.startAt = some 0)
    (hp : parseStatus a.status = some c) (hne : ¬(a.chunks = [] ∧ a.err.isSome = true))
    (hd : h.apply (foldHeaders a.headers) = .ok d) :
    wrapW h a = { startAt := some 0, status := statusLine c, headers := unfoldLines d a.headers,
                  chunks := a.chunks, err := a.err, calls := a.calls } := by
  have hc : captureAbort a = a := by simp [captureAbort, hs, hp]
  unfold wrapW
  simp only [hc, hne, if_false, hs, if_true, hp, Option.getD_some, foldHeaders_idem, hd]

theorem wrapW_raise_at_once (h : Handler) (a : WApp) (hl : a.legal = true)
    (hr : a.chunks = [] ∧ a.err.isSome = true) : wrapW h a = WApp.raising (a.err.getD "") a.calls := by
  unfold wrapW
  simp only [captureAbort_legal a hl, hr, and_self, if_true]

theorem obs_raising (e : String) (n : Nat) : (WApp.raising e n).obs = ⟨none, [], [], some e, n⟩ := by
  simp [WApp.obs, WApp.raising]

theorem obs_of_raise_at_once (a : WApp) (hr : a.chunks = [] ∧ a.err.isSome = true) :
    a.obs = ⟨none, [], [], a.err, a.calls⟩ := by
  simp [WApp.obs, hr.1, hr.2]

theorem legal_raising (e : String) (n : Nat) : (WApp.raising e n).legal = true := by
  simp [WApp.legal, WApp.raising]

theorem wrapW_calls (h : Handler) (a : WApp) : (wrapW h a).calls = a.calls := by
  simp only [wrapW]
  repeat' split
  all_goals rfl

theorem AApp.legal_cases (a : AApp) (h : a.legal = true) :
    ∃ s hd bs, a.events = .start s hd :: bs ∧ bodiesOk bs = true ∧ a.err = none ∧ headersLatin1 hd = true := by
  unfold AApp.legal at h
  split at h
  · rename_i s hd bs heq
    simp only [Bool.and_eq_true, Option.isNone_iff_eq_none] at h
    exact ⟨s, hd, bs, heq, h.1.1, h.1.2, h.2⟩
  · simp at h

theorem wrapA_ok (h : Handler) (a : AApp) (s : Nat) (hd : List Hdr) (bs : List AEv) (d : Dict)
    (hev : a.events = .start s hd :: bs) (hb : bodiesOk bs = true) (he : a.err = none)
    (hap : h.apply (foldHeaders hd) = .ok d) (hlat : headersLatin1 (unfoldLines d hd) = true) :
    wrapA h a = { events := AEv.start s (unfoldLines d hd)
                    :: ((pieces Gen.Middleware.rereadSize ((bs.map evData).flatten)).map fun p => AEv.body p true)
                    ++ [AEv.body [] false],
                  err := none, calls := a.calls } := by
  have hrun : relayRun Relay.init a.events
      = .ok { status := s, raw := hd, buf := (bs.map evData).flatten, eof := true } := by
    rw [hev, relayRun_cons_ok Relay.init { Relay.init with status := s, raw := hd } _ _ rfl,
      relayRun_bodies bs _ hb rfl]
    simp [Relay.init]
  unfold wrapA
  simp only [hrun, he, foldHeaders_idem, hap]
  have : (unfoldLines d hd).all (fun e => latin1 e.1 && latin1 e.2) = true := hlat
  simp [this]

theorem wrapA_raising (h : Handler) (e : String) (n : Nat) : wrapA h (AApp.raising e n) = AApp.raising e n := by
  simp [wrapA, AApp.raising, relayRun]

theorem wrapA_calls (h : Handler) (a : AApp) : (wrapA h a).calls = a.calls := by
  simp only [wrapA]
  repeat' split
  all_goals rfl

end Baize.Middleware
