/-
C01, header layer: what the header block written by an encoder denotes (`headerEvent_rendered`), and that such a
block is one the searches of `Lemmas/MultipartSearch` find the end of (`hdrOK_joinLines`).
-/
import BaizeVerif.Lemmas.MultipartSearch
import BaizeVerif.Lemmas.MultipartParseHeader

namespace Baize.Multipart

/-- "form-data" -/
def fdBytes : List Nat := [102, 111, 114, 109, 45, 100, 97, 116, 97]

/-- the value an encoder writes: `form-data; name="N"` or `form-data; name="N"; filename="F"` -/
def cdValue (N : List Nat) : Option (List Nat) → List Nat
  | none => fdBytes ++ 59 :: 32 :: (nameKey ++ 61 :: 34 :: N ++ [34])
  | some F => fdBytes ++ 59 :: 32 :: (nameKey ++ 61 :: 34 :: N ++ 34 :: 59 :: 32 :: (filenameKey ++ 61 :: 34 :: F ++ [34]))

/-- every kind of byte an encoder writes around name and filename, once each: `form-data`, `;`,
space, `name`, `=`, `"`, `filename`.  Not a text: only membership in it is used, so that what holds
of these bytes, of `N` and of `F` holds of all of `cdValue N F`. -/
def cdFixed : List Nat := fdBytes ++ 59 :: 32 :: (nameKey ++ 61 :: 34 :: filenameKey)

theorem forall_mem_cdValue {P : Nat → Prop} {N : List Nat} {F : Option (List Nat)} (hfix : ∀ x ∈ cdFixed, P x)
    (hN : ∀ x ∈ N, P x) (hF : ∀ f, F = some f → ∀ x ∈ f, P x) : ∀ x ∈ cdValue N F, P x := by
  simp only [cdFixed, List.forall_mem_append, List.forall_mem_cons] at hfix
  obtain ⟨hfd, hsemi, hsp, hname, hequals, hquote, hfilename⟩ := hfix
  cases F with
  | none =>
    simp only [cdValue, List.forall_mem_append, List.forall_mem_cons]
    exact ⟨hfd, hsemi, hsp, ⟨⟨hname, hequals, hquote, hN⟩, hquote, nofun⟩⟩
  | some f =>
    simp only [cdValue, List.forall_mem_append, List.forall_mem_cons]
    exact ⟨hfd, hsemi, hsp, ⟨hname, hequals, hquote, hN⟩, hquote, hsemi, hsp, ⟨hfilename, hequals, hquote, hF f rfl⟩, hquote, nofun⟩

theorem nameKey_ok : KeyOK nameKey := by
  refine ⟨⟨110, [97, 109], 101, rfl⟩, ?_⟩
  decide

theorem filenameKey_ok : KeyOK filenameKey := by
  refine ⟨⟨102, [105, 108, 101, 110, 97, 109], 101, rfl⟩, ?_⟩
  decide

theorem parseHeaderValue_cd (N : List Nat) (F : Option (List Nat)) (hN : QuoteFree N)
    (hF : ∀ f, F = some f → QuoteFree f) :
    parseHeaderValue (cdValue N F) =
      (fdBytes, match F with
        | none => [(nameKey, N)]
        | some f => [(nameKey, N), (filenameKey, f)]) := by
  have hfd : FieldOK fdBytes := fieldOK_plain fdBytes (by decide)
  cases F with
  | none =>
    simpa [cdValue, dictSet] using
      parseHeaderValue_options fdBytes [(nameKey, N)] hfd (by decide) (by simpa using ⟨nameKey_ok, hN⟩)
  | some f =>
    simpa [cdValue, dictSet, nameKey, filenameKey] using
      parseHeaderValue_options fdBytes [(nameKey, N), (filenameKey, f)] hfd (by decide)
        (by simpa using ⟨⟨nameKey_ok, hN⟩, filenameKey_ok, hF f rfl⟩)

def joinLines : List Bytes → Bytes
  | [] => []
  | [l] => l
  | l :: l' :: ls => l ++ 13 :: 10 :: joinLines (l' :: ls)

/-- a header line as it is written: no line break inside, no blank at either end.  The first clause asks for two
characters at least because it has the shape `stripBy_ends` takes. -/
def LineBytesOK (l : Bytes) : Prop :=
  (∃ a m z, l = a :: m ++ [z] ∧ isAsciiSpace a = false ∧ isAsciiSpace z = false) ∧ (∀ x ∈ l, isLB x = false)

theorem joinLines_head {l : Bytes} (ls : List Bytes) (h : LineBytesOK l) :
    ∃ a r, joinLines (l :: ls) = a :: r ∧ isLB a = false ∧ a ≠ 32 ∧ a ≠ 9 := by
  obtain ⟨⟨a, m, z, hl, has, _⟩, hnl⟩ := h
  have h32 : a ≠ 32 := by intro h; subst h; simp [isAsciiSpace] at has
  have h9 : a ≠ 9 := by intro h; subst h; simp [isAsciiSpace] at has
  have ha := hnl a (by rw [hl]; simp)
  cases ls with
  | nil => exact ⟨a, m ++ [z], by simp [joinLines, hl], ha, h32, h9⟩
  | cons l' ls => exact ⟨a, m ++ [z] ++ 13 :: 10 :: joinLines (l' :: ls), by simp [joinLines, hl], ha, h32, h9⟩

theorem subContinuation_joinLines :
    ∀ (ls : List Bytes), (∀ l ∈ ls, LineBytesOK l) → subContinuation (joinLines ls) = joinLines ls
  | [], _ => rfl
  | [l], h => by
    have hl := (h l (by simp)).2
    unfold subContinuation
    have := subContGo_noLB l [] hl
    simpa [joinLines, subContGo] using this
  | l :: l' :: ls, h => by
    have hl := (h l (by simp)).2
    obtain ⟨a, r, hr, _, h32, h9⟩ := joinLines_head ls (h l' (by simp))
    have ih := subContinuation_joinLines (l' :: ls) (fun x hx => h x (by simp [hx]))
    unfold subContinuation at ih ⊢
    rw [joinLines, subContGo_noLB l _ hl, hr, subContGo_crlf a r h32 h9, ← hr, ih]

theorem splitLinesGo_noLB (l rest cur : Bytes) (h : ∀ x ∈ l, isLB x = false) :
    splitLinesGo (l ++ rest) cur = splitLinesGo rest (l.reverse ++ cur) := by
  induction l generalizing cur with
  | nil => rfl
  | cons c cs ih =>
    obtain ⟨h13, h10⟩ := not_isLB (h c (by simp))
    show splitLinesGo (c :: (cs ++ rest)) cur = _
    rw [splitLinesGo]
    · rw [ih (c :: cur) (fun x hx => h x (by simp [hx]))]
      simp
    · intro r hr _; exact h13 hr
    · intro hr; exact h13 hr
    · intro hr; exact h10 hr

theorem splitLines_joinLines :
    ∀ (ls : List Bytes), (∀ l ∈ ls, LineBytesOK l) → splitLines (joinLines ls) = ls
  | [], _ => rfl
  | [l], h => by
    obtain ⟨⟨a, m, z, hl, _, _⟩, hnl⟩ := h l (by simp)
    unfold splitLines
    have := splitLinesGo_noLB l [] [] hnl
    simp only [List.append_nil] at this
    rw [joinLines, this, splitLinesGo]
    simp [hl]
  | l :: l' :: ls, h => by
    obtain ⟨_, hnl⟩ := h l (by simp)
    have ih := splitLines_joinLines (l' :: ls) (fun x hx => h x (by simp [hx]))
    unfold splitLines at ih ⊢
    rw [joinLines, splitLinesGo_noLB l _ [] hnl, splitLinesGo]
    simp [ih]

/-- one header line: its bytes in the block, and the name / value it carries after decoding -/
structure HLine where
  bytes : Bytes
  key : List Nat
  value : List Nat

/-- the line is `key: value` after decoding with the part charset; key and value have no
surrounding white space (so `strip` leaves them alone; the `32` in `valueStrip` is the space after
the colon, which it takes off), the key has no colon -/
structure HLineOK (cs : Charset) (l : HLine) : Prop where
  bytesOK : LineBytesOK l.bytes
  decodes : safeDecode cs l.bytes = l.key ++ 58 :: 32 :: l.value
  noColon : ∀ x ∈ l.key, x ≠ 58
  keyStrip : stripBy isPySpace l.key = l.key
  valueStrip : stripBy isPySpace (32 :: l.value) = l.value

theorem splitColon_key (k v : List Nat) (h : ∀ x ∈ k, x ≠ 58) :
    splitColon (k ++ 58 :: v) = some (k, v) := by
  induction k with
  | nil => simp [splitColon]
  | cons a k ih =>
    have ha : a ≠ 58 := h a (by simp)
    show splitColon (a :: (k ++ 58 :: v)) = _
    rw [splitColon]
    simp [ha, ih (fun x hx => h x (by simp [hx]))]

theorem stripBy_lineBytes (l : Bytes) (h : LineBytesOK l) : stripBy isAsciiSpace l = l := by
  obtain ⟨⟨a, m, z, hl, ha, hz⟩, _⟩ := h
  rw [hl]; exact stripBy_ends isAsciiSpace a z m ha hz

theorem parseHeaderLines_lines (cs : Charset) (ls : List HLine) (h : ∀ l ∈ ls, HLineOK cs l) :
    parseHeaderLines cs (joinLines (ls.map (·.bytes))) = some (ls.map fun l => (l.key, l.value)) := by
  have hb : ∀ b ∈ ls.map (·.bytes), LineBytesOK b :=
    List.forall_mem_map.mpr fun l hl => (h l hl).bytesOK
  unfold parseHeaderLines
  rw [subContinuation_joinLines _ hb, splitLines_joinLines _ hb]
  have hstrip : (ls.map (·.bytes)).map (stripBy isAsciiSpace) = ls.map (·.bytes) := by
    rw [List.map_map]
    apply List.map_congr_left
    intro l hl
    exact stripBy_lineBytes _ (h l hl).bytesOK
  have hfilter : (ls.map (·.bytes)).filter (fun l => !l.isEmpty) = ls.map (·.bytes) := by
    rw [List.filter_eq_self]
    intro b hb'
    obtain ⟨⟨a, m, z, hl, _, _⟩, _⟩ := hb b hb'
    rw [hl]; rfl
  simp only [hstrip, hfilter]
  clear hstrip hfilter hb
  induction ls with
  | nil => rfl
  | cons l ls ih =>
    have hl := h l (by simp)
    have ih' := ih (fun x hx => h x (by simp [hx]))
    simp only [List.map_cons, List.mapM_cons]
    rw [hl.decodes]
    rw [splitColon_key l.key _ hl.noColon]
    simp only [hl.keyStrip, hl.valueStrip]
    rw [ih']
    rfl

theorem foldHeaders_distinct :
    ∀ (ps acc : List (List Nat × List Nat)),
      ((acc.map (·.1)) ++ ps.map (fun p => lowerAscii p.1)).Nodup →
      foldHeaders ps acc = acc ++ ps.map fun p => (lowerAscii p.1, p.2)
  | [], acc, _ => by simp [foldHeaders]
  | (k, v) :: ps, acc, h => by
    rw [foldHeaders]
    simp only
    have hnot : lowerAscii k ∉ acc.map (·.1) := by
      intro hm
      rw [List.nodup_append] at h
      exact h.2.2 _ hm _ (by simp) rfl
    have hfind : acc.find? (fun x => x.1 = lowerAscii k) = none := by
      rw [List.find?_eq_none]
      intro x hx heq
      simp only [decide_eq_true_eq] at heq
      exact hnot (by rw [← heq]; exact List.mem_map_of_mem hx)
    rw [hfind]
    have hnd : ((acc ++ [(lowerAscii k, v)]).map (·.1) ++ ps.map (fun p => lowerAscii p.1)).Nodup := by
      simpa [List.append_assoc] using h
    rw [foldHeaders_distinct ps (acc ++ [(lowerAscii k, v)]) hnd]
    simp

/-- "Content-Disposition" as the encoder writes it -/
def cdHeaderName : List Nat :=
  [67,111,110,116,101,110,116,45,68,105,115,112,111,115,105,116,105,111,110]

theorem lower_cdHeaderName : lowerAscii cdHeaderName = cdName := by decide

/-- **C01, header layer.**  `Content-Disposition: form-data; name="N"[; filename="F"]` followed by
further `Name: value` lines with pairwise different names is read back as the field / file event
with exactly the name `N`, the filename `F` and the header list, for every name and filename
without quote, backslash and line break (`;`, `=`, spaces, non-ASCII bytes … included). -/
theorem headerEvent_rendered (cs : Charset) (N : List Nat) (F : Option (List Nat)) (cdBytes : Bytes)
    (extra : List HLine) (hN : QuoteFree N) (hF : ∀ f, F = some f → QuoteFree f)
    (hcd : HLineOK cs ⟨cdBytes, cdHeaderName, cdValue N F⟩) (hextra : ∀ l ∈ extra, HLineOK cs l)
    (hkeys : (cdName :: extra.map (fun l => lowerAscii l.key)).Nodup) :
    headerEvent cs (joinLines (cdBytes :: extra.map (·.bytes))) =
      match F with
      | none => .field (some N) ((cdName, cdValue N F) :: extra.map fun l => (lowerAscii l.key, l.value))
      | some f => .file (some N) f ((cdName, cdValue N F) :: extra.map fun l => (lowerAscii l.key, l.value)) := by
  have hlines := parseHeaderLines_lines cs (⟨cdBytes, cdHeaderName, cdValue N F⟩ :: extra)
    (List.forall_mem_cons.mpr ⟨hcd, hextra⟩)
  simp only [List.map_cons] at hlines
  unfold headerEvent
  rw [hlines]
  simp only
  have hfold : foldHeaders ((cdHeaderName, cdValue N F) :: extra.map fun l => (l.key, l.value)) [] =
      (cdName, cdValue N F) :: extra.map fun l => (lowerAscii l.key, l.value) := by
    rw [foldHeaders_distinct _ [] (by simpa [lower_cdHeaderName, List.map_map, Function.comp_def] using hkeys)]
    simp [lower_cdHeaderName, List.map_map]
  rw [hfold]
  have hlook : lookup cdName ((cdName, cdValue N F) :: extra.map fun l => (lowerAscii l.key, l.value)) =
      some (cdValue N F) := by
    simp [lookup]
  rw [hlook]
  simp only
  rw [parseHeaderValue_cd N F hN hF]
  cases F <;> simp [lookup, nameKey, filenameKey]

theorem blankAt_suffix_joinLines :
    ∀ (ls : List Bytes), (∀ l ∈ ls, LineBytesOK l) → ∀ A1 A2, joinLines ls = A1 ++ A2 → blankAt A2 = 0
  | [], _, A1, A2, h => by
    rw [(List.nil_eq_append_iff.mp h).2]
    rfl
  | [l], hok, A1, A2, h => by
    simp only [joinLines] at h
    have hnl := (hok l (by simp)).2
    cases A2 with
    | nil => rfl
    | cons x r => exact blankAt_cons_nonLB x r (hnl x (by rw [h]; simp))
  | l :: l' :: ls, hok, A1, A2, h => by
    have hnl := (hok l (by simp)).2
    obtain ⟨a, r, hr, ha, _, _⟩ := joinLines_head ls (hok l' (by simp))
    obtain ⟨h13, h10⟩ := not_isLB ha
    have ih := blankAt_suffix_joinLines (l' :: ls) (fun x hx => hok x (by simp [hx]))
    -- no blank line at the CR or at the LF in front of the next line, which starts with `a`
    have hcr : blankAt (13 :: 10 :: joinLines (l' :: ls)) = 0 := by
      rw [hr]; cases r <;> simp [blankAt, h13]
    have hlf : blankAt (10 :: joinLines (l' :: ls)) = 0 := by rw [hr]; simp [blankAt, h10]
    rw [joinLines] at h
    -- where does A2 start: inside `l`, at the CR, at the LF, or inside the rest
    rcases List.append_eq_append_iff.mp h with ⟨c', _, hrest⟩ | ⟨c', hl, hA2⟩
    · rcases append_eq_cons_cons hrest.symm with rfl | ⟨rfl, h2⟩ | ⟨c'', rfl, h2⟩
      · rw [List.nil_append] at hrest; rw [← hrest]; exact hcr
      · rw [h2]; exact hlf
      · exact ih c'' A2 h2.symm
    · cases c' with
      | nil => rw [hA2]; exact hcr
      | cons x c'' =>
        rw [hA2]
        exact blankAt_cons_nonLB x _ (hnl x (by rw [hl]; simp))

theorem joinLines_last :
    ∀ (l : Bytes) (ls : List Bytes), (∀ y ∈ l :: ls, LineBytesOK y) →
      ∃ r x, joinLines (l :: ls) = r ++ [x] ∧ isLB x = false
  | l, [], h => by
    obtain ⟨⟨a, m, z, hl, _, _⟩, hnl⟩ := h l (by simp)
    exact ⟨a :: m, z, by simp [joinLines, hl], hnl z (by rw [hl]; simp)⟩
  | l, l' :: ls, h => by
    obtain ⟨r, x, hr, hx⟩ := joinLines_last l' ls (fun y hy => h y (List.mem_cons_of_mem l hy))
    exact ⟨l ++ 13 :: 10 :: r, x, by rw [joinLines, hr]; simp, hx⟩

theorem hdrOK_joinLines (l : Bytes) (ls : List Bytes) (h : ∀ x ∈ l :: ls, LineBytesOK x) :
    HdrOK (joinLines (l :: ls)) := by
  obtain ⟨a, r, hr, ha, h32, h9⟩ := joinLines_head ls (h l (by simp))
  exact ⟨⟨a, r, hr, ha, h32, h9⟩, joinLines_last l ls h, blankAt_suffix_joinLines (l :: ls) h⟩

end Baize.Multipart
