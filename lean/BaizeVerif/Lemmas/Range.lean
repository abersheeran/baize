/-
For C03: the vocabulary of its statements, and what sort + merge, `specRange`, `resolveSpecs` and `scan`
compute in it.
-/
import BaizeVerif.Model.Range

namespace Baize.Range

def Covers (rs : List (Nat × Nat)) (p : Nat) : Prop := ∃ r ∈ rs, r.1 ≤ p ∧ p < r.2

def Denotes (n : Nat) : Spec → Nat → Prop
  | (some a, some b), p => a ≤ p ∧ p ≤ b ∧ p < n      -- first-last
  | (some a, none), p => a ≤ p ∧ p < n                 -- first-
  | (none, some b), p => n ≤ p + b ∧ p < n             -- -suffix : the last b bytes
  | (none, none), _ => False

/-- non-empty ranges inside `[0,n)`, strictly ascending, disjoint and non-adjacent -/
def Canonical (n : Nat) : List (Nat × Nat) → Prop
  | [] => True
  | [r] => r.1 < r.2 ∧ r.2 ≤ n
  | r :: s :: rest => r.1 < r.2 ∧ r.2 < s.1 ∧ Canonical n (s :: rest)

/-- the empty pair (which `headerSpecs` filters out) counts because `specRange`'s value for it fails the start
check -/
def Unsat (n : Nat) : Spec → Prop
  | (some a, _) => n ≤ a
  | (none, some b) => b = 0 ∨ n < b
  | (none, none) => True

def Inverted : Spec → Prop
  | (some a, some b) => b < a
  | _ => False

@[simp] theorem covers_nil (p : Nat) : ¬ Covers [] p := by simp [Covers]

@[simp] theorem covers_cons (r : Nat × Nat) (rs : List (Nat × Nat)) (p : Nat) :
    Covers (r :: rs) p ↔ (r.1 ≤ p ∧ p < r.2) ∨ Covers rs p := by
  simp [Covers]

theorem covers_perm {l₁ l₂ : List (Nat × Nat)} (h : l₁.Perm l₂) (p : Nat) :
    Covers l₁ p ↔ Covers l₂ p := by
  simp only [Covers, h.mem_iff]

theorem covers_map {α : Type} (f : α → Nat × Nat) (l : List α) (p : Nat) :
    Covers (l.map f) p ↔ ∃ x ∈ l, (f x).1 ≤ p ∧ p < (f x).2 := by
  induction l with
  | nil => simp
  | cons x xs ih => simp [ih]

theorem Canonical.bounds {n : Nat} : ∀ {rs : List (Nat × Nat)}, Canonical n rs →
    ∀ r ∈ rs, r.1 < r.2 ∧ r.2 ≤ n
  | [a], h, r, hr => by simp only [List.mem_singleton] at hr; subst hr; exact h
  | a :: b :: rest, ⟨h1, h2, h3⟩, r, hr => by
    have hb := Canonical.bounds h3 b List.mem_cons_self
    rcases List.mem_cons.mp hr with rfl | hr
    · exact ⟨h1, by omega⟩
    · exact Canonical.bounds h3 r hr

private theorem leLex_iff (a b : Nat × Nat) :
    leLex a b = true ↔ a.1 < b.1 ∨ (a.1 = b.1 ∧ a.2 ≤ b.2) := by
  simp [leLex]

private theorem leLex_trans (a b c : Nat × Nat) : leLex a b → leLex b c → leLex a c := by
  simp only [leLex_iff]; omega

private theorem leLex_total (a b : Nat × Nat) : leLex a b ∨ leLex b a := by
  simp only [leLex_iff]; omega

private theorem leLex_antisymm (a b : Nat × Nat) : leLex a b → leLex b a → a = b := by
  simp only [leLex_iff, Prod.ext_iff]; omega

private theorem insertSorted_perm (x : Nat × Nat) (l : List (Nat × Nat)) :
    (insertSorted x l).Perm (x :: l) := by
  induction l with
  | nil => simp [insertSorted]
  | cons y ys ih =>
    unfold insertSorted
    split
    · exact List.Perm.refl _
    · exact (List.Perm.cons y ih).trans (List.Perm.swap x y ys)

private theorem insertSorted_pairwise (x : Nat × Nat) (l : List (Nat × Nat))
    (h : l.Pairwise (fun a b => leLex a b)) :
    (insertSorted x l).Pairwise (fun a b => leLex a b) := by
  induction l with
  | nil => simp [insertSorted]
  | cons y ys ih =>
    rw [List.pairwise_cons] at h
    unfold insertSorted
    split
    · rename_i hxy
      refine List.pairwise_cons.mpr ⟨?_, List.pairwise_cons.mpr h⟩
      intro z hz
      rcases List.mem_cons.mp hz with rfl | hz
      · exact hxy
      · exact leLex_trans _ _ _ hxy (h.1 z hz)
    · rename_i hxy
      refine List.pairwise_cons.mpr ⟨?_, ih h.2⟩
      intro z hz
      rcases List.mem_cons.mp ((insertSorted_perm x ys).mem_iff.mp hz) with rfl | hz
      · exact (leLex_total z y).resolve_left hxy
      · exact h.1 z hz

private theorem sort_pairwise (l : List (Nat × Nat)) :
    (sortRanges l).Pairwise (fun x y => leLex x y) := by
  induction l with
  | nil => simp [sortRanges]
  | cons x xs ih => exact insertSorted_pairwise x _ ih

private theorem sort_perm (l : List (Nat × Nat)) : (sortRanges l).Perm l := by
  induction l with
  | nil => simp [sortRanges]
  | cons x xs ih => exact (insertSorted_perm x _).trans (List.Perm.cons x ih)

theorem sort_congr {l₁ l₂ : List (Nat × Nat)} (h : l₁.Perm l₂) :
    sortRanges l₁ = sortRanges l₂ :=
  List.Perm.eq_of_pairwise (le := fun x y => leLex x y)
    (fun a b _ _ => leLex_antisymm a b) (sort_pairwise l₁) (sort_pairwise l₂)
    ((sort_perm l₁).trans (h.trans (sort_perm l₂).symm))

private theorem sort_pairwise_start (l : List (Nat × Nat)) :
    (sortRanges l).Pairwise (fun a b => a.1 ≤ b.1) :=
  (sort_pairwise l).imp fun {a b} h => by simp only [leLex_iff] at h; omega

private theorem mergeFrom_head (cur : Nat × Nat) (xs : List (Nat × Nat)) :
    ∃ e rest, mergeFrom cur xs = (cur.1, e) :: rest := by
  induction xs generalizing cur with
  | nil => exact ⟨cur.2, [], rfl⟩
  | cons x xs ih =>
    unfold mergeFrom
    split
    · exact ih (cur.1, _)
    · exact ⟨cur.2, _, rfl⟩

private theorem mergeFrom_canonical (n : Nat) (cur : Nat × Nat) (xs : List (Nat × Nat))
    (hc : cur.1 < cur.2 ∧ cur.2 ≤ n) (hx : ∀ x ∈ xs, x.1 < x.2 ∧ x.2 ≤ n) :
    Canonical n (mergeFrom cur xs) := by
  induction xs generalizing cur with
  | nil => exact hc
  | cons x xs ih =>
    obtain ⟨hse, hxs⟩ := List.forall_mem_cons.mp hx
    unfold mergeFrom
    split
    · exact ih _ ⟨by simp only; omega, by simp only; omega⟩ hxs
    · rename_i hgt
      have ih' := ih x hse hxs
      obtain ⟨e', rest, heq⟩ := mergeFrom_head x xs
      rw [heq] at ih' ⊢
      exact ⟨hc.1, by simp only; omega, ih'⟩

private theorem mergeFrom_covers (cur : Nat × Nat) (xs : List (Nat × Nat))
    (hord : (cur :: xs).Pairwise (fun a b => a.1 ≤ b.1)) (p : Nat) :
    Covers (mergeFrom cur xs) p ↔ Covers (cur :: xs) p := by
  induction xs generalizing cur with
  | nil => rfl
  | cons x xs ih =>
    obtain ⟨hcur, hx, hxs⟩ := by simpa only [List.pairwise_cons] using hord
    have hs : cur.1 ≤ x.1 := hcur x List.mem_cons_self
    unfold mergeFrom
    split
    · rw [ih (cur.1, max x.2 cur.2)
        (List.pairwise_cons.mpr ⟨fun y hy => hcur y (List.mem_cons_of_mem _ hy), hxs⟩)]
      simp only [covers_cons, ← or_assoc]
      exact or_congr_left (by omega)
    · rw [covers_cons, ih x (List.pairwise_cons.mpr ⟨hx, hxs⟩), covers_cons cur]

private theorem mergeSorted_ne_nil {l : List (Nat × Nat)} (h : l ≠ []) : mergeSorted l ≠ [] := by
  cases l with
  | nil => exact absurd rfl h
  | cons x xs =>
    obtain ⟨e, rest, heq⟩ := mergeFrom_head x xs
    simp [mergeSorted, heq]

private theorem mergeSorted_canonical (n : Nat) (l : List (Nat × Nat))
    (hx : ∀ x ∈ l, x.1 < x.2 ∧ x.2 ≤ n) : Canonical n (mergeSorted l) := by
  cases l with
  | nil => trivial
  | cons x xs => exact mergeFrom_canonical n x xs (hx x List.mem_cons_self) (List.forall_mem_cons.mp hx).2

private theorem mergeSorted_covers (l : List (Nat × Nat))
    (hs : l.Pairwise (fun a b => a.1 ≤ b.1)) (p : Nat) :
    Covers (mergeSorted l) p ↔ Covers l p := by
  cases l with
  | nil => rfl
  | cons x xs => exact mergeFrom_covers x xs hs p

theorem sortMerge_ne_nil {l : List (Nat × Nat)} (h : l ≠ []) : mergeSorted (sortRanges l) ≠ [] :=
  mergeSorted_ne_nil fun he => h (List.nil_perm.mp (he ▸ sort_perm l))

theorem sortMerge_canonical {n : Nat} {l : List (Nat × Nat)} (hx : ∀ x ∈ l, x.1 < x.2 ∧ x.2 ≤ n) :
    Canonical n (mergeSorted (sortRanges l)) :=
  mergeSorted_canonical n _ fun x h => hx x ((sort_perm l).mem_iff.mp h)

theorem sortMerge_covers (l : List (Nat × Nat)) (p : Nat) :
    Covers (mergeSorted (sortRanges l)) p ↔ Covers l p :=
  (mergeSorted_covers _ (sort_pairwise_start l) p).trans (covers_perm (sort_perm l) p)

/-- the first check of `resolveSpecs` (416) fails exactly on the unsatisfiable specs -/
theorem specRange_unsat (n : Nat) (s : Spec) : startOk n (specRange n s) = false ↔ Unsat n s := by
  simp only [startOk, Bool.and_eq_false_iff, decide_eq_false_iff_not]
  rcases s with ⟨_ | a, _ | b⟩ <;> simp only [specRange, Unsat, iff_true] <;> omega

/-- on the others its second check (400) fails exactly on the inverted ones -/
theorem specRange_inverted {n : Nat} {s : Spec} (h : ¬ Unsat n s) :
    (specRange n s).2 ≤ (specRange n s).1.toNat ↔ Inverted s := by
  rcases s with ⟨_ | a, _ | b⟩ <;>
    simp only [specRange, Unsat, Inverted, Int.toNat_natCast, Int.toNat_sub, iff_false, not_true_eq_false] at h ⊢
  · omega
  · omega
  · split <;> omega

theorem specRange_le (n : Nat) (s : Spec) : (specRange n s).2 ≤ n := by
  rcases s with ⟨_ | a, _ | b⟩ <;> simp only [specRange, Nat.le_refl]
  split <;> omega

theorem specRange_denotes {n : Nat} {s : Spec} (h : ¬ Unsat n s) (p : Nat) :
    ((specRange n s).1.toNat ≤ p ∧ p < (specRange n s).2) ↔ Denotes n s p := by
  rcases s with ⟨_ | a, _ | b⟩ <;>
    simp only [specRange, Unsat, Denotes, Int.toNat_natCast, Int.toNat_sub, not_true_eq_false] at h ⊢
  · omega
  · split <;> omega

def natRanges (n : Nat) (specs : List Spec) : List (Nat × Nat) :=
  specs.map fun s => ((specRange n s).1.toNat, (specRange n s).2)

/-- the checks of `resolveSpecs`, in the code's order -/
theorem resolveSpecs_cases (n : Nat) (specs : List Spec) :
    (specs = [] ∧ resolveSpecs n specs = .malformed) ∨
    (specs ≠ [] ∧ (∃ s ∈ specs, Unsat n s) ∧ resolveSpecs n specs = .unsatisfiable) ∨
    (specs ≠ [] ∧ (∀ s ∈ specs, ¬ Unsat n s) ∧ (∃ s ∈ specs, Inverted s) ∧
      resolveSpecs n specs = .malformed) ∨
    (specs ≠ [] ∧ (∀ s ∈ specs, ¬ Unsat n s) ∧ (∀ s ∈ specs, ¬ Inverted s) ∧
      resolveSpecs n specs = .ok (mergeSorted (sortRanges (natRanges n specs)))) := by
  have h416 : (specs.map (specRange n)).any (fun r => !startOk n r) = true ↔ ∃ s ∈ specs, Unsat n s := by
    simp [← specRange_unsat]
  by_cases hne : specs = []
  · exact Or.inl ⟨hne, by rw [hne]; rfl⟩
  by_cases hu : ∃ s ∈ specs, Unsat n s
  · exact Or.inr (Or.inl ⟨hne, hu, by simp [resolveSpecs, hne, h416.mpr hu]⟩)
  have hs : ∀ s ∈ specs, ¬ Unsat n s := fun s hs h => hu ⟨s, hs, h⟩
  have h400 : (specs.map (specRange n)).any (fun r => decide (r.2 ≤ r.1.toNat)) = true ↔
      ∃ s ∈ specs, Inverted s := by
    simp only [List.any_map, List.any_eq_true, Function.comp, decide_eq_true_eq]
    exact exists_congr fun s => and_congr_right fun h => specRange_inverted (hs s h)
  by_cases hi : ∃ s ∈ specs, Inverted s
  · exact Or.inr (Or.inr (Or.inl ⟨hne, hs, hi, by simp [resolveSpecs, hne, mt h416.mp hu, h400.mpr hi]⟩))
  · exact Or.inr (Or.inr (Or.inr ⟨hne, hs, fun s hs h => hi ⟨s, hs, h⟩,
      by simp [resolveSpecs, hne, mt h416.mp hu, mt h400.mp hi, natRanges, Function.comp_def]⟩))

theorem resolveSpecs_ok {n : Nat} {specs : List Spec} {rs : List (Nat × Nat)}
    (h : resolveSpecs n specs = .ok rs) :
    specs ≠ [] ∧ (∀ s ∈ specs, ¬ Unsat n s) ∧ (∀ s ∈ specs, ¬ Inverted s) ∧
      rs = mergeSorted (sortRanges (natRanges n specs)) := by
  rcases resolveSpecs_cases n specs with ⟨_, h'⟩ | ⟨_, _, h'⟩ | ⟨_, _, _, h'⟩ | ⟨hne, hs, hi, h'⟩ <;>
    cases h'.symm.trans h
  exact ⟨hne, hs, hi, rfl⟩

def AllDigits (l : List Nat) : Prop := ∀ x ∈ l, isDigit x = true

private theorem spanDigits_append (a rest : List Nat) (ha : AllDigits a)
    (hr : ∀ x ∈ rest.head?, isDigit x = false) : spanDigits (a ++ rest) = (a, rest) := by
  induction a with
  | nil =>
    cases rest with
    | nil => rfl
    | cons x r => simp [spanDigits, hr x rfl]
  | cons c cs ih =>
    obtain ⟨hc, hcs⟩ := List.forall_mem_cons.mp ha
    simp [spanDigits, hc, ih hcs]

private theorem scan_dash {l a r : List Nat} (h : spanDigits l = (a, 45 :: r)) :
    scan l = (a, (spanDigits r).1) :: scan (spanDigits r).2 := by
  cases l with
  | nil => cases h
  | cons c cs =>
    rw [scan]
    split
    · rename_i r' heq
      rw [h] at heq ⊢
      cases heq
      rfl
    · rename_i hne
      exact absurd (congrArg Prod.snd h) (hne r)

private theorem scan_spec (a b rest : List Nat) (ha : AllDigits a) (hb : AllDigits b)
    (hr : ∀ x ∈ rest.head?, isDigit x = false) :
    scan (a ++ 45 :: (b ++ rest)) = (a, b) :: scan rest := by
  rw [scan_dash (spanDigits_append a _ ha (by simp [isDigit])), spanDigits_append b rest hb hr]

private theorem scan_skip (x : Nat) (r : List Nat) (hx : isDigit x = false) (h45 : x ≠ 45) :
    scan (x :: r) = scan r := by
  rw [scan]
  have h1 : spanDigits (x :: r) = ([], x :: r) := by simp [spanDigits, hx]
  split
  · rename_i r' heq
    rw [h1] at heq
    simp only at heq
    injection heq with hx' _
    exact absurd hx' h45
  · rfl

/-- the text of a range set: specs `a-b` joined by commas -/
def renderSet : List (List Nat × List Nat) → List Nat
  | [] => []
  | [(a, b)] => a ++ 45 :: b
  | (a, b) :: p :: ps => a ++ 45 :: (b ++ 44 :: renderSet (p :: ps))

theorem scan_renderSet : ∀ (ps : List (List Nat × List Nat)),
    (∀ p ∈ ps, AllDigits p.1 ∧ AllDigits p.2) → scan (renderSet ps) = ps
  | [], _ => by simp [renderSet, scan]
  | [(a, b)], h => by
    obtain ⟨⟨ha, hb⟩, _⟩ := List.forall_mem_cons.mp h
    simpa [renderSet, scan] using scan_spec a b [] ha hb (by simp)
  | (a, b) :: p :: ps, h => by
    obtain ⟨⟨ha, hb⟩, hps⟩ := List.forall_mem_cons.mp h
    rw [renderSet, scan_spec a b _ ha hb (by simp [isDigit]), scan_skip 44 _ (by decide) (by decide),
      scan_renderSet (p :: ps) hps]

theorem splitEq_append (A r : List Nat) (hA : ∀ x ∈ A, x ≠ 61) :
    splitEq (A ++ 61 :: r) = some (A, r) := by
  induction A with
  | nil => simp [splitEq]
  | cons a A ih =>
    obtain ⟨ha, hA⟩ := List.forall_mem_cons.mp hA
    simp [splitEq, ha, ih hA]

end Baize.Range
