/-
Line-level facts about the functions of `Model/SSE.lean`, none of which mentions an event: what the
encoder's splitter (`consHead`, `pieces`, `dropTrailingEmpty`, `splitLines`), `joinWith`, `str(int)` and
the client's line reader (`wireLines`, `stripLF`, `colonSplit`) do with single-line texts (`BreakFree`).
-/
import BaizeVerif.Model.SSE
import BaizeVerif.Lemmas.Text

namespace Baize.SSE

/-- no CR and no LF: a "single-line" text -/
def BreakFree (l : List Nat) : Prop := ∀ c ∈ l, c ≠ 10 ∧ c ≠ 13

instance (l : List Nat) : Decidable (BreakFree l) := by unfold BreakFree; infer_instance

@[simp] theorem breakFree_nil : BreakFree [] := by simp [BreakFree]

@[simp] theorem breakFree_cons {c : Nat} {l : List Nat} :
    BreakFree (c :: l) ↔ (c ≠ 10 ∧ c ≠ 13) ∧ BreakFree l := List.forall_mem_cons

@[simp] theorem breakFree_append {a b : List Nat} : BreakFree (a ++ b) ↔ BreakFree a ∧ BreakFree b :=
  List.forall_mem_append

theorem consHead_ne_nil (c : Nat) (P : List (List Nat)) : consHead c P ≠ [] := by
  cases P <;> simp [consHead]

theorem consHead_flatten (c : Nat) (P : List (List Nat)) : (consHead c P).flatten = c :: P.flatten := by
  cases P <;> simp [consHead]

theorem consHead_breakFree {c : Nat} {P : List (List Nat)} :
    (∀ p ∈ consHead c P, BreakFree p) ↔ (c ≠ 10 ∧ c ≠ 13) ∧ ∀ p ∈ P, BreakFree p := by
  cases P <;> simp [consHead, and_assoc]

theorem pieces_ne_nil (f : Bool) (s : List Nat) : pieces f s ≠ [] := by
  fun_induction pieces f s <;> simp [*, consHead_ne_nil]

theorem pieces_breakFree (f : Bool) (s : List Nat) : ∀ p ∈ pieces f s, BreakFree p := by
  fun_induction pieces f s <;> simp_all [consHead_breakFree]

theorem pieces_flatten (f : Bool) (s : List Nat) :
    (pieces f s).flatten = s.filter (fun c => c ≠ 10 ∧ c ≠ 13) := by
  fun_induction pieces f s <;> simp [*, consHead_flatten]

theorem pieces_append {l : List Nat} (h : BreakFree l) {t p : List Nat} {ps : List (List Nat)}
    (ht : pieces false t = p :: ps) : pieces false (l ++ t) = (l ++ p) :: ps := by
  induction l with
  | nil => simpa using ht
  | cons c cs ih =>
    obtain ⟨⟨h10, h13⟩, hcs⟩ := breakFree_cons.mp h
    simp [pieces, h10, h13, ih hcs, consHead]

theorem dropTrailingEmpty_cons {x : List Nat} {P : List (List Nat)} (h : P ≠ []) :
    dropTrailingEmpty (x :: P) = x :: dropTrailingEmpty P := by
  cases P with
  | nil => exact absurd rfl h
  | cons y r => simp [dropTrailingEmpty]

theorem dropTrailingEmpty_sublist (P : List (List Nat)) : (dropTrailingEmpty P).Sublist P := by
  fun_induction dropTrailingEmpty P <;> simp [*]

theorem dropTrailingEmpty_flatten (P : List (List Nat)) : (dropTrailingEmpty P).flatten = P.flatten := by
  fun_induction dropTrailingEmpty P <;> simp [*]

theorem dropTrailingEmpty_eq_nil {P : List (List Nat)} : dropTrailingEmpty P = [] ↔ P = [] ∨ P = [[]] := by
  fun_induction dropTrailingEmpty P <;> simp [*]

theorem splitLines_breakFree (d : List Nat) : ∀ l ∈ splitLines d, BreakFree l :=
  fun l hl => pieces_breakFree false d l ((dropTrailingEmpty_sublist _).subset hl)

theorem splitLines_eq_nil {d : List Nat} : splitLines d = [] ↔ d = [] := by
  cases d with
  | nil => exact iff_of_true rfl rfl
  | cons c cs =>
    -- a first code point opens a second piece or makes the first one non-empty
    have : pieces false (c :: cs) ≠ [[]] := by
      unfold pieces
      split
      · simp [pieces_ne_nil]
      split
      · simp [pieces_ne_nil]
      · cases pieces false cs <;> simp [consHead]
    simp [splitLines, dropTrailingEmpty_eq_nil, pieces_ne_nil, this]

theorem splitLines_single {l : List Nat} (hl : BreakFree l) (hne : l ≠ []) : splitLines l = [l] := by
  have := pieces_append hl (t := []) rfl
  rw [List.append_nil] at this
  simp [splitLines, this, dropTrailingEmpty, hne]

theorem joinWith_cons {sep x : List Nat} {r : List (List Nat)} (h : r ≠ []) :
    joinWith sep (x :: r) = x ++ sep ++ joinWith sep r := by
  cases r with
  | nil => exact absurd rfl h
  | cons y r => rfl

theorem joinWith_concat (sep : List Nat) (L : List (List Nat)) (x : List Nat) :
    joinWith sep (L ++ [x]) = L.flatMap (· ++ sep) ++ x := by
  induction L with
  | nil => rfl
  | cons y r ih =>
    rw [List.cons_append, joinWith_cons (by simp), ih]
    simp

theorem joinWith_filter (P : List (List Nat)) (h : ∀ p ∈ P, BreakFree p) :
    (joinWith [10] P).filter (fun c => c ≠ 10) = P.flatten := by
  induction P with
  | nil => rfl
  | cons x r ih =>
    have hx : x.filter (fun c => c ≠ 10) = x :=
      List.filter_eq_self.mpr fun c hc => by simp [(h x List.mem_cons_self c hc).1]
    cases r with
    | nil => simpa [joinWith] using hx
    | cons y r =>
      rw [joinWith_cons (by simp), List.filter_append, List.filter_append, hx,
        ih fun p hp => h p (List.mem_cons_of_mem _ hp)]
      simp

theorem digitsAux_eq (fuel n : Nat) (acc : List Nat) (h : n < fuel) :
    digitsAux fuel n acc = Decimal.digits n ++ acc := by
  fun_induction digitsAux fuel n acc with
  | case1 => omega
  | case2 fuel n acc hn => rw [Decimal.digits_eq_if, if_pos hn]; rfl
  | case3 fuel n acc hn ih => rw [ih (by omega), Decimal.digits_eq_if n, if_neg hn]; simp

theorem natDigits_eq (n : Nat) : natDigits n = Decimal.digits n := by
  rw [natDigits, digitsAux_eq _ _ _ (Nat.lt_succ_self n), List.append_nil]

theorem natDigits_spec (n : Nat) :
    natDigits n ≠ [] ∧ (natDigits n).all isDigit = true ∧ digitsVal (natDigits n) = n := by
  rw [natDigits_eq]
  refine ⟨Decimal.digits_ne_nil n, List.all_eq_true.mpr fun c hc => ?_, Decimal.foldl_digits n⟩
  simpa [isDigit] using Decimal.mem_digits hc

theorem intText_breakFree (n : Int) : BreakFree (intText n) := by
  have hd : ∀ m, BreakFree (natDigits m) := fun m c hc => by
    have := Decimal.mem_digits (natDigits_eq m ▸ hc)
    omega
  cases n with
  | ofNat m => exact hd m
  | negSucc m => exact breakFree_cons.mpr ⟨by decide, hd _⟩

theorem wireLines_line {l : List Nat} (h : BreakFree l) (cur rest : List Nat) :
    wireLines cur false (l ++ 10 :: rest) = (cur ++ l) :: wireLines [] false rest := by
  induction l generalizing cur with
  | nil => simp [wireLines]
  | cons c cs ih =>
    obtain ⟨⟨h10, h13⟩, hcs⟩ := breakFree_cons.mp h
    simp [wireLines, h10, h13, ih hcs]

theorem wireLines_lines (ls : List (List Nat)) (h : ∀ l ∈ ls, BreakFree l) (rest : List Nat) :
    wireLines [] false (ls.flatMap (· ++ [10]) ++ rest) = ls ++ wireLines [] false rest := by
  induction ls with
  | nil => simp
  | cons l ls ih =>
    simp [wireLines_line (h l List.mem_cons_self), ih fun x hx => h x (List.mem_cons_of_mem _ hx)]

theorem stripLF_lines (ls : List (List Nat)) :
    stripLF (ls.flatMap (· ++ [10])) = joinWith [10] ls := by
  rcases List.eq_nil_or_concat ls with rfl | ⟨L, x, rfl⟩
  · rfl
  · rw [List.concat_eq_append, joinWith_concat]
    simp [stripLF, ← List.append_assoc]

theorem colonSplit_append {k : List Nat} (hk : 58 ∉ k) (v : List Nat) :
    colonSplit (k ++ 58 :: v) = some (k, v) := by
  induction k with
  | nil => simp [colonSplit]
  | cons c cs ih =>
    obtain ⟨hc, hcs⟩ : c ≠ 58 ∧ 58 ∉ cs := by simpa [eq_comm] using hk
    simp [colonSplit, hc, ih hcs]

end Baize.SSE
