/-
Lemmas about the router model alone (C08).  Digit strings and numbers (`digitsVal`, `padDigits`,
`natDigits` invert each other); what `k{n}` matches (`Run`) and a fixed-width template as a sequence
of such groups (`matchTpl_group`).  The candidate lengths of a placeholder (`cands_spec`,
`cands_sorted`) are used only to say what one placeholder step of `matchSegs` does
(`matchSegs_param_some`, `matchSegs_param_none`).  Each convertor's regex language
is described as the prints of some data (`shape_int_iff`, `shape_decimal_iff`, `shape_uuid_iff` over
hex digit values, `shape_date_iff`), and `to_python` is computed on those prints.  `int` and `decimal`,
whose `to_string` normalises the text (leading zeros; trailing zeros, `stripZeros_spec`), have the whole
way back as one lemma each (`int_roundtrip`, `decimal_roundtrip`).
-/
import BaizeVerif.Model.Router
import BaizeVerif.Lemmas.Text

namespace Baize.Router

theorem isDigit_iff (c : Nat) : isDigit c = true ↔ 48 ≤ c ∧ c ≤ 57 := by
  simp [isDigit]

def Digits (l : List Nat) : Prop := l ≠ [] ∧ ∀ c ∈ l, isDigit c = true

theorem digitsVal_append (a b : List Nat) :
    digitsVal (a ++ b) = digitsVal a * 10 ^ b.length + digitsVal b := by
  unfold digitsVal
  rw [List.foldl_append]
  generalize a.foldl _ 0 = x
  induction b generalizing x with
  | nil => simp
  | cons d ds ih =>
    simp only [List.foldl_cons, List.length_cons]
    rw [ih, ih (0 * 10 + (d - 48)), Nat.pow_succ]
    grind

theorem digitsVal_nil : digitsVal [] = 0 := rfl

theorem digitsVal_single (d : Nat) : digitsVal [d] = d - 48 := by
  simp [digitsVal]

theorem digitsVal_cons (d : Nat) (ds : List Nat) :
    digitsVal (d :: ds) = (d - 48) * 10 ^ ds.length + digitsVal ds := by
  have := digitsVal_append [d] ds
  rwa [digitsVal_single] at this

theorem padDigits_length (k n : Nat) : (padDigits k n).length = k := by
  induction k generalizing n with
  | zero => rfl
  | succ k ih => simp [padDigits, ih]

theorem padDigits_digits (k n : Nat) : ∀ c ∈ padDigits k n, isDigit c = true := by
  induction k generalizing n with
  | zero => simp [padDigits]
  | succ k ih =>
    intro c hc
    simp only [padDigits, List.mem_append, List.mem_singleton] at hc
    rcases hc with hc | rfl
    · exact ih _ c hc
    · rw [isDigit_iff]; omega

theorem digitsVal_padDigits (k n : Nat) : digitsVal (padDigits k n) = n % 10 ^ k := by
  induction k generalizing n with
  | zero => simp [padDigits, digitsVal, Nat.mod_one]
  | succ k ih =>
    simp only [padDigits]
    rw [digitsVal_append, ih, digitsVal_single]
    simp only [List.length_singleton, Nat.pow_one, Nat.add_sub_cancel_left]
    rw [Nat.pow_succ, Nat.mul_comm (10 ^ k) 10, Nat.mod_mul, Nat.mul_comm, Nat.add_comm]

theorem padDigits_digitsVal (l : List Nat) (h : ∀ c ∈ l, isDigit c = true) :
    padDigits l.length (digitsVal l) = l := by
  -- by induction on the reversed text, because `padDigits` peels off the last digit
  have rev (r : List Nat) (h : ∀ c ∈ r, isDigit c = true) :
      padDigits r.length (digitsVal r.reverse) = r.reverse := by
    induction r with
    | nil => rfl
    | cons d r ih =>
      have hd := (isDigit_iff d).mp (h d (by simp))
      simp only [List.reverse_cons, List.length_cons, padDigits]
      rw [digitsVal_append, digitsVal_single]
      simp only [List.length_singleton, Nat.pow_one]
      have e1 : (digitsVal r.reverse * 10 + (d - 48)) / 10 = digitsVal r.reverse := by omega
      have e2 : 48 + (digitsVal r.reverse * 10 + (d - 48)) % 10 = d := by omega
      rw [e1, e2, ih (fun c hc => h c (by simp [hc]))]
  simpa using rev l.reverse fun c hc => h c (List.mem_reverse.mp hc)

theorem digitsVal_lt (l : List Nat) (h : ∀ c ∈ l, isDigit c = true) : digitsVal l < 10 ^ l.length := by
  rw [← congrArg digitsVal (padDigits_digitsVal l h), digitsVal_padDigits]
  exact Nat.mod_lt _ (Nat.pow_pos (by decide))

theorem natDigits_eq (n : Nat) : natDigits n = Decimal.digits n := by
  have hr (f n : Nat) : padDigits (ndigitsFuel (f + 1) n) n =
      if n < 10 then [48 + n] else padDigits (ndigitsFuel f (n / 10)) (n / 10) ++ [48 + n % 10] := by
    rw [ndigitsFuel]
    split
    · simp [padDigits, Nat.mod_eq_of_lt, *]
    · rfl
  -- the model's fuel is `n`, not `n + 1`: at 0 there is none, and `ndigitsFuel 0 _ = 1` is the answer
  cases n with
  | zero => rfl
  | succ m =>
    exact Decimal.eq_digits_of_fuel (r := fun f n => padDigits (ndigitsFuel f n) n) hr m (m + 1) (by omega)

theorem natDigits_length (n : Nat) : (natDigits n).length = ndigits n := padDigits_length _ _

theorem ndigits_le_iff {n k : Nat} (hk : 0 < k) : ndigits n ≤ k ↔ n < 10 ^ k := by
  rw [← natDigits_length, natDigits_eq]
  exact Decimal.length_digits_le_iff hk

theorem natDigits_digits (n : Nat) : Digits (natDigits n) := by
  rw [natDigits_eq]
  exact ⟨Decimal.digits_ne_nil n, fun c hc => (isDigit_iff c).mpr (Decimal.mem_digits hc)⟩

theorem digitsVal_natDigits (n : Nat) : digitsVal (natDigits n) = n := by
  rw [natDigits_eq]
  exact Decimal.foldl_digits n

theorem mem_downTo (hi lo k : Nat) : k ∈ downTo hi lo ↔ lo ≤ k ∧ k ≤ hi := by
  simp only [downTo, List.mem_reverse, List.mem_map, List.mem_range]
  constructor
  · rintro ⟨i, hi', rfl⟩; omega
  · rintro ⟨h1, h2⟩; exact ⟨k - lo, by omega, by omega⟩

theorem downTo_sorted (hi lo : Nat) : (downTo hi lo).Pairwise (fun a b => b < a) := by
  simp only [downTo, List.pairwise_reverse, List.pairwise_map]
  exact List.pairwise_lt_range.imp (by intro a b h; omega)

theorem downTo_append_sorted {a lo b lo' : Nat} (h : b < lo) :
    (downTo a lo ++ downTo b lo').Pairwise (fun x y => y < x) := by
  refine List.pairwise_append.mpr ⟨downTo_sorted _ _, downTo_sorted _ _, fun x hx y hy => ?_⟩
  rw [mem_downTo] at hx hy
  omega

theorem runLen_le (f : Nat → Bool) (p : List Nat) : runLen f p ≤ p.length :=
  (List.takeWhile_prefix f).length_le

theorem all_take_iff (f : Nat → Bool) (p : List Nat) (k : Nat) (hk : k ≤ p.length) :
    (p.take k).all f = true ↔ k ≤ runLen f p := by
  induction p generalizing k with
  | nil => simp at hk; simp [hk, runLen]
  | cons c cs ih =>
    cases k with
    | zero => simp
    | succ k =>
      simp only [List.length_cons, Nat.add_le_add_iff_right] at hk
      simp only [List.take_succ_cons, List.all_cons, Bool.and_eq_true, runLen, List.takeWhile_cons]
      have := ih k hk
      simp only [runLen] at this
      by_cases hc : f c = true
      · simp [hc, this]
      · simp [hc]

theorem drop_runLen (f : Nat → Bool) (p : List Nat) : p.drop (runLen f p) = p.dropWhile f := by
  conv => lhs; arg 2; rw [← @List.takeWhile_append_dropWhile _ f p]
  exact List.drop_left

theorem dropWhile_take (f : Nat → Bool) (p : List Nat) (k : Nat) :
    (p.take k).dropWhile f = (p.dropWhile f).take (k - runLen f p) := by
  induction p generalizing k with
  | nil => simp
  | cons c cs ih =>
    cases k with
    | zero => simp
    | succ k =>
      by_cases hc : f c = true
      · simp [runLen, hc, ih]
      · simp [runLen, hc]

theorem matchTpl_length (tp : List Cls) (t : List Nat) (h : matchTpl tp t = true) : t.length = tp.length := by
  fun_induction matchTpl tp t with
  | case1 => rfl
  | case2 k ks c cs ih =>
    rw [Bool.and_eq_true] at h
    rw [List.length_cons, List.length_cons, ih h.2]
  | case3 => cases h

theorem matchTpl_append (tp1 tp2 : List Cls) (t1 t2 : List Nat) (h : t1.length = tp1.length) :
    matchTpl (tp1 ++ tp2) (t1 ++ t2) = (matchTpl tp1 t1 && matchTpl tp2 t2) := by
  induction tp1 generalizing t1 with
  | nil => cases t1 with
    | nil => simp [matchTpl]
    | cons c cs => simp at h
  | cons k ks ih => cases t1 with
    | nil => simp at h
    | cons c cs =>
      simp only [List.length_cons, Nat.add_right_cancel_iff] at h
      simp [matchTpl, ih cs h, Bool.and_assoc]

/-- `l` is what the regex `k{n}` matches -/
def Run (k : Cls) (n : Nat) (l : List Nat) : Prop := l.length = n ∧ ∀ c ∈ l, k.ok c = true

theorem Run.append {k : Cls} {n m : Nat} {a b : List Nat} (ha : Run k n a) (hb : Run k m b) :
    Run k (n + m) (a ++ b) :=
  ⟨by rw [List.length_append, ha.1, hb.1], fun c hc => (List.mem_append.mp hc).elim (ha.2 c) (hb.2 c)⟩

theorem Run.take {k : Cls} {n : Nat} {l : List Nat} (h : Run k n l) (i : Nat) (hi : i ≤ n) :
    Run k i (l.take i) :=
  ⟨by rw [List.length_take, h.1]; omega, fun c hc => h.2 c (List.mem_of_mem_take hc)⟩

theorem Run.drop {k : Cls} {n : Nat} {l : List Nat} (h : Run k n l) (i : Nat) : Run k (n - i) (l.drop i) :=
  ⟨by rw [List.length_drop, h.1], fun c hc => h.2 c (List.mem_of_mem_drop hc)⟩

theorem matchTpl_replicate (k : Cls) (n : Nat) (t : List Nat) :
    matchTpl (List.replicate n k) t = true ↔ Run k n t := by
  induction n generalizing t with
  | zero => cases t <;> simp [matchTpl, Run]
  | succ n ih => cases t with
    | nil => simp [matchTpl, List.replicate_succ, Run]
    | cons c cs =>
      simp only [matchTpl, List.replicate_succ, Bool.and_eq_true, ih cs, Run, List.length_cons,
        Nat.add_right_cancel_iff, List.mem_cons, forall_eq_or_imp]
      exact and_left_comm

theorem matchTpl_group (k : Cls) (n : Nat) (tp : List Cls) (t : List Nat) :
    matchTpl (List.replicate n k ++ .dash :: tp) t = true ↔
      ∃ a t', Run k n a ∧ t = a ++ cDash :: t' ∧ matchTpl tp t' = true := by
  constructor
  · intro h
    have hl := matchTpl_length _ _ h
    rw [← List.take_append_drop n t, matchTpl_append _ _ _ _ (by simp at hl ⊢; omega), Bool.and_eq_true,
      matchTpl_replicate] at h
    cases hd : t.drop n with
    | nil => simp [hd, matchTpl] at h
    | cons x t' =>
      simp only [hd, matchTpl, Cls.ok, Bool.and_eq_true, beq_iff_eq] at h
      exact ⟨t.take n, t', h.1, by rw [← h.2.1, ← hd, List.take_append_drop], h.2.2⟩
  · rintro ⟨a, t', ha, rfl, h⟩
    rw [matchTpl_append _ _ _ _ (by simp [ha.1]), (matchTpl_replicate _ _ _).mpr ha]
    simpa [matchTpl, Cls.ok] using h

private theorem cands_run (f : Nat → Bool) (p : List Nat) (k : Nat) :
    k ∈ downTo (runLen f p) 1 ↔ k ≤ p.length ∧ (!(p.take k).isEmpty && (p.take k).all f) = true := by
  rw [mem_downTo]
  have key (hk : k ≤ p.length) :
      (!(p.take k).isEmpty && (p.take k).all f) = true ↔ 1 ≤ k ∧ k ≤ runLen f p := by
    rw [Bool.and_eq_true, all_take_iff f p k hk, Bool.not_eq_true', List.isEmpty_eq_false_iff, ne_eq,
      List.take_eq_nil_iff, ← List.length_eq_zero_iff]
    omega
  constructor
  · intro h
    have hk : k ≤ p.length := Nat.le_trans h.2 (runLen_le f p)
    exact ⟨hk, (key hk).mpr h⟩
  · rintro ⟨hk, h⟩
    exact (key hk).mp h

private theorem cands_tpl (tp : List Cls) (n : Nat) (hn : tp.length = n) (p : List Nat) (k : Nat) :
    k ∈ (if matchTpl tp (p.take n) = true then [n] else []) ↔
      k ≤ p.length ∧ matchTpl tp (p.take k) = true := by
  rw [List.mem_ite_nil_right, List.mem_singleton]
  -- a prefix that matches has the template's length, so it is not cut short by the end of `p`
  have len (i : Nat) (hm : matchTpl tp (p.take i) = true) : min i p.length = n := by
    rw [← hn, ← matchTpl_length _ _ hm, List.length_take]
  constructor
  · rintro ⟨hm, rfl⟩
    exact ⟨by have := len k hm; omega, hm⟩
  · rintro ⟨hk, hm⟩
    obtain rfl : k = n := by have := len k hm; omega
    exact ⟨hm, rfl⟩

/-- the candidates of `decimal`: inside the digit run, or the run, a dot and part of the next run -/
private theorem mem_cands_decimal (p : List Nat) (k : Nat) :
    k ∈ cands .decimal p ↔
      (1 ≤ k ∧ k ≤ runLen isDigit p) ∨
      (1 ≤ runLen isDigit p ∧ ∃ r, p.drop (runLen isDigit p) = cDot :: r ∧
        runLen isDigit p + 2 ≤ k ∧ k ≤ runLen isDigit p + 1 + runLen isDigit r) := by
  simp only [cands]
  generalize runLen isDigit p = m
  split
  · simp; omega
  · rw [List.mem_append, mem_downTo, Or.comm]
    refine or_congr Iff.rfl ?_
    split
    · rename_i c r hd
      rw [hd]
      split
      · rename_i hc
        obtain rfl : c = cDot := beq_iff_eq.mp hc
        rw [mem_downTo]
        exact ⟨fun h => ⟨by omega, r, rfl, h⟩, fun ⟨_, r', hr, h⟩ => by cases hr; exact h⟩
      · rename_i hc
        simp only [List.not_mem_nil, false_iff]
        rintro ⟨_, r', hr, _⟩
        cases hr
        exact hc (beq_self_eq_true _)
    · rename_i hd
      simp [hd]

private theorem shapeDecimal_take (p : List Nat) (k : Nat) (hk : k ≤ p.length) :
    shapeDecimal (p.take k) = true ↔ k ∈ cands .decimal p := by
  rw [mem_cands_decimal]
  have hm : (p.takeWhile isDigit).length = runLen isDigit p := rfl
  have hlen : (p.drop (runLen isDigit p)).length = p.length - runLen isDigit p := List.length_drop
  simp only [shapeDecimal, ← List.take_takeWhile, dropWhile_take]
  rw [← drop_runLen]
  generalize runLen isDigit p = m at *
  -- the integer part of the prefix is empty only if the prefix or the digit run is
  have hint : ((p.takeWhile isDigit).take k).isEmpty = false ↔ 1 ≤ k ∧ 1 ≤ m := by
    rw [List.isEmpty_eq_false_iff, ne_eq, List.take_eq_nil_iff, ← List.length_eq_zero_iff, hm]; omega
  by_cases hle : k ≤ m
  · -- the prefix lies inside the digit run
    have : k - m = 0 := by omega
    simp only [this, List.take_zero, Bool.not_eq_true', hint]
    constructor
    · intro h; left; omega
    · rintro (h | ⟨_, _, _, h, _⟩) <;> omega
  · -- it reaches beyond: a dot and at least one digit have to follow the run
    cases hd : p.drop m with
    | nil => rw [hd] at hlen; simp at hlen; omega
    | cons x r =>
      rw [hd] at hlen
      simp only [List.length_cons] at hlen
      obtain ⟨j, hj⟩ : ∃ j, k - m = j + 1 := ⟨k - m - 1, by omega⟩
      have hjr : j ≤ r.length := by omega
      have hfrac : (r.take j).isEmpty = false ↔ 1 ≤ j := by
        rw [List.isEmpty_eq_false_iff, ne_eq, List.take_eq_nil_iff, ← List.length_eq_zero_iff]; omega
      simp only [hj, List.take_succ_cons, Bool.and_eq_true, Bool.not_eq_true', hint, hfrac, beq_iff_eq,
        all_take_iff isDigit r j hjr, List.cons.injEq]
      constructor
      · rintro ⟨⟨⟨h1, rfl⟩, h3⟩, h4⟩
        exact Or.inr ⟨h1.2, r, ⟨rfl, rfl⟩, by omega, by omega⟩
      · rintro (h | ⟨h1, r', ⟨rfl, rfl⟩, h4, h5⟩)
        · omega
        · exact ⟨⟨⟨by omega, rfl⟩, by omega⟩, by omega⟩

theorem cands_spec (c : Conv) (p : List Nat) (k : Nat) :
    k ∈ cands c p ↔ k ≤ p.length ∧ shape c (p.take k) = true := by
  cases c with
  | str => exact cands_run _ p k
  | int => exact cands_run _ p k
  | any => simp [cands, shape, mem_downTo]
  | uuid => exact cands_tpl uuidTpl 36 (by decide) p k
  | date => exact cands_tpl dateTpl 10 (by decide) p k
  | decimal =>
    refine ⟨fun h => ?_, fun ⟨hk, hs⟩ => (shapeDecimal_take p k hk).mp hs⟩
    have hk : k ≤ p.length := by
      have hm := runLen_le isDigit p
      rcases (mem_cands_decimal p k).mp h with h | ⟨_, r, hd, _, h⟩
      · omega
      · have hr := runLen_le isDigit r
        have := congrArg List.length hd
        simp only [List.length_drop, List.length_cons] at this
        omega
    exact ⟨hk, (shapeDecimal_take p k hk).mpr h⟩

theorem cands_sorted (c : Conv) (p : List Nat) : (cands c p).Pairwise (fun a b => b < a) := by
  cases c with
  | str => exact downTo_sorted _ _
  | int => exact downTo_sorted _ _
  | any => exact downTo_sorted _ _
  | uuid => simp only [cands]; split <;> simp
  | date => simp only [cands]; split <;> simp
  | decimal =>
    simp only [cands]
    split
    · exact .nil
    · split
      · split
        · exact downTo_append_sorted (by omega)
        · exact downTo_sorted _ _
      · exact downTo_sorted _ _

/-- A placeholder takes the longest prefix in its regex's language after which the rest of the
route matches (also when it is the last piece: only the whole text leaves nothing over). -/
theorem matchSegs_param_some (n : List Nat) (c : Conv) (rest : List Seg) (p : List Nat) (ts : List (List Nat))
    (h : matchSegs (.param n c :: rest) p = some ts) :
    ∃ k ts₁, ts = p.take k :: ts₁ ∧ k ≤ p.length ∧ shape c (p.take k) = true ∧
      matchSegs rest (p.drop k) = some ts₁ ∧
      ∀ k', k < k' → k' ≤ p.length → shape c (p.take k') = true → matchSegs rest (p.drop k') = none := by
  cases rest with
  | nil =>
    simp only [matchSegs, Option.ite_none_right_eq_some, Option.some.injEq] at h
    refine ⟨p.length, [], by simp [h.2], Nat.le_refl _, by simpa using h.1, by simp [matchSegs], ?_⟩
    intro k' h1 h2; omega
  | cons seg rest =>
    -- `k` is the first hit in `cands c p`: the accepted lengths (`cands_spec`), longest first (`cands_sorted`)
    obtain ⟨l₁, k, l₂, hl, hk, hnone⟩ := List.findSome?_eq_some_iff.mp h
    obtain ⟨ts₁, hm, rfl⟩ := Option.map_eq_some_iff.mp hk
    have hmem : ∀ x, x ∈ cands c p ↔ x ∈ l₁ ∨ x = k ∨ x ∈ l₂ := by simp [hl]
    obtain ⟨hkle, hs⟩ := (cands_spec c p k).mp ((hmem k).mpr (Or.inr (Or.inl rfl)))
    refine ⟨k, ts₁, rfl, hkle, hs, hm, ?_⟩
    intro k' hlt hle hs'
    have hsorted := cands_sorted c p
    rw [hl, List.pairwise_append, List.pairwise_cons] at hsorted
    rcases (hmem k').mp ((cands_spec c p k').mpr ⟨hle, hs'⟩) with hin | rfl | hin
    · simpa using hnone k' hin
    · omega
    · have := hsorted.2.1.1 k' hin; omega

theorem matchSegs_param_none (n : List Nat) (c : Conv) (rest : List Seg) (p : List Nat)
    (h : matchSegs (.param n c :: rest) p = none) (k : Nat) (hk : k ≤ p.length)
    (hs : shape c (p.take k) = true) : matchSegs rest (p.drop k) = none := by
  cases rest with
  | nil =>
    simp only [matchSegs, ite_eq_right_iff, reduceCtorEq, imp_false] at h
    have : k ≠ p.length := by rintro rfl; simp [h] at hs
    simp only [matchSegs, ite_eq_right_iff, reduceCtorEq, imp_false, List.isEmpty_iff, List.drop_eq_nil_iff]
    omega
  | cons seg rest =>
    simpa using List.findSome?_eq_none_iff.mp h k ((cands_spec c p k).mpr ⟨hk, hs⟩)

theorem toPython_isSome_iff (c : Conv) (t : List Nat) :
    (toPython c t).isSome = true ↔ (c = .int → t.length ≤ maxIntDigits) ∧
      (c = .date → validDate (digitsVal (t.take 4)) (digitsVal ((t.drop 5).take 2))
        (digitsVal ((t.drop 8).take 2)) = true) := by
  cases c <;> simp [toPython]

theorem shape_int_iff (t : List Nat) : shape .int t = true ↔ Digits t := by
  simp [shape, Digits, List.all_eq_true]

theorem int_roundtrip (t : List Nat) (hs : shape .int t = true) (hl : t.length ≤ maxIntDigits) :
    toStr .int (.int (digitsVal t)) = some (natDigits (digitsVal t)) ∧
      shape .int (natDigits (digitsVal t)) = true ∧
      toPython .int (natDigits (digitsVal t)) = some (.int (digitsVal t)) := by
  have hd := (shape_int_iff t).mp hs
  -- the number has no more digits than the text had
  have hn : ndigits (digitsVal t) ≤ maxIntDigits :=
    Nat.le_trans ((ndigits_le_iff (List.length_pos_iff.mpr hd.1)).mpr (digitsVal_lt t hd.2)) hl
  refine ⟨by simp [toStr, hn], (shape_int_iff _).mpr (natDigits_digits _), ?_⟩
  simp [toPython, natDigits_length, hn, digitsVal_natDigits]

theorem digitsVal_replicate_zero (k : Nat) : digitsVal (List.replicate k 48) = 0 := by
  induction k with
  | zero => rfl
  | succ k ih => rw [List.replicate_succ, digitsVal_cons, ih]; simp

theorem stripZeros_spec (l : List Nat) :
    ∃ k, l = stripZeros l ++ List.replicate k 48 := by
  refine ⟨(l.reverse.takeWhile (· == 48)).length, ?_⟩
  have hrep : (l.reverse.takeWhile (· == 48)).reverse = List.replicate (l.reverse.takeWhile (· == 48)).length 48 := by
    rw [List.eq_replicate_iff]
    refine ⟨by simp, ?_⟩
    intro b hb
    rw [List.mem_reverse] at hb
    simpa using List.all_eq_true.mp List.all_takeWhile b hb
  rw [← hrep, stripZeros, ← List.reverse_append, List.takeWhile_append_dropWhile, List.reverse_reverse]

theorem stripZeros_subset (l : List Nat) : ∀ c ∈ stripZeros l, c ∈ l := by
  intro c hc
  obtain ⟨k, hk⟩ := stripZeros_spec l
  rw [hk]; simp [hc]

theorem digits_not_dot : isDigit cDot = false := by decide

theorem shape_decimal_iff (t : List Nat) :
    shape .decimal t = true ↔ ∃ a, Digits a ∧ (t = a ∨ ∃ f, Digits f ∧ t = a ++ cDot :: f) := by
  constructor
  · intro h
    have hsplit := @List.takeWhile_append_dropWhile _ isDigit t
    have ha : ∀ c ∈ t.takeWhile isDigit, isDigit c = true := List.all_eq_true.mp List.all_takeWhile
    simp only [shape, shapeDecimal] at h
    generalize t.takeWhile isDigit = a at *
    generalize t.dropWhile isDigit = b at *
    subst hsplit
    cases b with
    | nil => exact ⟨a, ⟨by simpa using h, ha⟩, Or.inl (by simp)⟩
    | cons x f =>
      simp only [Bool.and_eq_true, Bool.not_eq_true', List.isEmpty_eq_false_iff, ne_eq, beq_iff_eq,
        List.all_eq_true] at h
      obtain ⟨⟨⟨h1, rfl⟩, h3⟩, h4⟩ := h
      exact ⟨a, ⟨h1, ha⟩, Or.inr ⟨f, ⟨h3, h4⟩, rfl⟩⟩
  · rintro ⟨a, ha, h | ⟨f, hf, h⟩⟩ <;> subst h
    · have hs := List.span_append_stop (b := []) ha.2 (Or.inl rfl)
      simp only [List.append_nil] at hs
      simpa [shape, shapeDecimal, hs.1, hs.2] using ha.1
    · have hs := List.span_append_stop ha.2 (Or.inr ⟨cDot, f, rfl, digits_not_dot⟩)
      simpa [shape, shapeDecimal, hs.1, hs.2, ha.1, hf.1, List.all_eq_true] using hf.2

theorem toPython_decimal_int (a : List Nat) (ha : ∀ c ∈ a, isDigit c = true) :
    toPython .decimal a = some (.dec (digitsVal a) 0) := by
  have hs := List.span_append_stop (b := []) ha (Or.inl rfl)
  simp only [List.append_nil] at hs
  simp [toPython, hs.1, hs.2]

theorem toPython_decimal_frac (a f : List Nat) (ha : ∀ c ∈ a, isDigit c = true) :
    toPython .decimal (a ++ cDot :: f) = some (.dec (digitsVal (a ++ f)) f.length) := by
  have hs := List.span_append_stop ha (Or.inr ⟨cDot, f, rfl, digits_not_dot⟩)
  simp [toPython, hs.1, hs.2]

theorem decimal_roundtrip (c e : Nat) :
    shape .decimal (decString c e) = true ∧
      ∃ c' e', toPython .decimal (decString c e) = some (.dec c' e') ∧ c' * 10 ^ e = c * 10 ^ e' := by
  have hip := natDigits_digits (c / 10 ^ e)
  -- without a fraction the text is the integer part; that is all of `c` when `10 ^ e` divides it
  have whole (h : c % 10 ^ e = 0) : shape .decimal (natDigits (c / 10 ^ e)) = true ∧
      ∃ c' e', toPython .decimal (natDigits (c / 10 ^ e)) = some (.dec c' e') ∧ c' * 10 ^ e = c * 10 ^ e' :=
    ⟨(shape_decimal_iff _).mpr ⟨_, hip, Or.inl rfl⟩, _, 0, toPython_decimal_int _ hip.2, by
      rw [digitsVal_natDigits, Nat.div_mul_cancel (Nat.dvd_of_mod_eq_zero h), Nat.pow_zero, Nat.mul_one]⟩
  unfold decString
  by_cases he : e = 0
  · rw [if_pos he]
    exact whole (by rw [he, Nat.pow_zero, Nat.mod_one])
  · rw [if_neg he]
    -- the fraction digits are those of `c % 10 ^ e` without `k` trailing zeros
    obtain ⟨k, hk⟩ := stripZeros_spec (padDigits e (c % 10 ^ e))
    have hval : digitsVal (padDigits e (c % 10 ^ e)) = c % 10 ^ e := by
      rw [digitsVal_padDigits, Nat.mod_mod]
    have hlen := congrArg List.length hk
    rw [padDigits_length, List.length_append, List.length_replicate] at hlen
    rw [hk, digitsVal_append, digitsVal_replicate_zero, List.length_replicate, Nat.add_zero] at hval
    generalize stripZeros (padDigits e (c % 10 ^ e)) = fr at *
    by_cases hempty : fr = []
    · subst hempty
      exact whole (by rw [← hval, digitsVal_nil, Nat.zero_mul])
    · have hfrd : ∀ x ∈ fr, isDigit x = true := fun x hx =>
        padDigits_digits e (c % 10 ^ e) x (by rw [hk]; exact List.mem_append_left _ hx)
      rw [if_neg (by simpa using hempty)]
      refine ⟨(shape_decimal_iff _).mpr ⟨_, hip, Or.inr ⟨_, ⟨hempty, hfrd⟩, rfl⟩⟩, _, _,
        toPython_decimal_frac _ _ hip.2, ?_⟩
      rw [digitsVal_append, digitsVal_natDigits]
      have hc := Nat.div_add_mod c (10 ^ e)
      have hpow : 10 ^ e = 10 ^ fr.length * 10 ^ k := by rw [hlen, Nat.pow_add]
      rw [← hval] at hc
      -- the first step multiplies out, with `hpow`
      calc (c / 10 ^ e * 10 ^ fr.length + digitsVal fr) * 10 ^ e
          = (10 ^ e * (c / 10 ^ e) + digitsVal fr * 10 ^ k) * 10 ^ fr.length := by grind
        _ = c * 10 ^ fr.length := by rw [hc]

theorem isLowerHex_iff (c : Nat) : isLowerHex c = true ↔ (48 ≤ c ∧ c ≤ 57) ∨ (97 ≤ c ∧ c ≤ 102) := by
  simp [isLowerHex, isDigit]

theorem hexChar_hexVal (c : Nat) (h : isLowerHex c = true) : hexChar (hexVal c) = c := by
  rw [isLowerHex_iff] at h
  simp only [hexChar, hexVal, isDigit_iff]
  split <;> split <;> omega

theorem hexVal_hexChar (n : Nat) : hexVal (hexChar n) = n := by
  simp only [hexChar, hexVal, isDigit_iff]
  split <;> split <;> omega

theorem hexVal_lt (c : Nat) (h : isLowerHex c = true) : hexVal c < 16 := by
  rw [isLowerHex_iff] at h
  simp only [hexVal, isDigit_iff]
  split <;> omega

theorem isLowerHex_hexChar (n : Nat) (h : n < 16) : isLowerHex (hexChar n) = true := by
  rw [isLowerHex_iff]; unfold hexChar; split <;> omega

theorem lowerHex_ne_dash (c : Nat) (h : isLowerHex c = true) : (c != cDash) = true := by
  rw [isLowerHex_iff] at h
  simp only [cDash, bne_iff_ne, ne_eq]; omega

theorem uuidTpl_eq : uuidTpl = List.replicate 8 .hex ++ .dash :: (List.replicate 4 .hex ++ .dash ::
    (List.replicate 4 .hex ++ .dash :: (List.replicate 4 .hex ++ .dash :: List.replicate 12 .hex))) := by
  decide

/-- 32 characters laid out 8-4-4-4-12 with dashes; `uuidString h` is this layout of `h.map hexChar` -/
def uuidCut (l : List Nat) : List Nat :=
  l.take 8 ++ cDash :: ((l.drop 8).take 4 ++ cDash :: ((l.drop 12).take 4 ++ cDash ::
    ((l.drop 16).take 4 ++ cDash :: l.drop 20)))

theorem matchTpl_uuid_iff (t : List Nat) :
    matchTpl uuidTpl t = true ↔ ∃ l, Run .hex 32 l ∧ t = uuidCut l := by
  simp only [uuidTpl_eq, matchTpl_group, matchTpl_replicate]
  constructor
  · rintro ⟨a, _, ha, rfl, b, _, hb, rfl, c, _, hc, rfl, d, e, hd, rfl, he⟩
    refine ⟨a ++ (b ++ (c ++ (d ++ e))), ha.append (hb.append (hc.append (hd.append he))), ?_⟩
    -- dropping 8, 12, 16, 20 characters drops the groups one after the other
    have drop4 (x y : List Nat) (hx : x.length = 4) (i : Nat)
        (h : (a ++ (b ++ (c ++ (d ++ e)))).drop i = x ++ y) :
        (a ++ (b ++ (c ++ (d ++ e)))).drop (i + 4) = y := by
      rw [← List.drop_drop, h, List.drop_left' hx]
    have d8 := @List.drop_left' _ a (b ++ (c ++ (d ++ e))) 8 ha.1
    have d12 := drop4 _ _ hb.1 8 d8
    have d16 := drop4 _ _ hc.1 12 d12
    have d20 := drop4 _ _ hd.1 16 d16
    rw [uuidCut, List.take_left' ha.1, d8, d12, d16, d20, List.take_left' hb.1, List.take_left' hc.1,
      List.take_left' hd.1]
  · rintro ⟨l, hl, rfl⟩
    exact ⟨_, _, hl.take 8 (by omega), rfl, _, _, (hl.drop 8).take 4 (by omega), rfl, _, _,
      (hl.drop 12).take 4 (by omega), rfl, _, _, (hl.drop 16).take 4 (by omega), rfl, hl.drop 20⟩

theorem filter_uuidCut (l : List Nat) (h : Run .hex 32 l) : (uuidCut l).filter (· != cDash) = l := by
  have hf (x : List Nat) (hx : ∀ c ∈ x, c ∈ l) : x.filter (· != cDash) = x :=
    List.filter_eq_self.mpr fun c hc => lowerHex_ne_dash c (h.2 c (hx c hc))
  have hdash : (cDash != cDash) = false := by decide
  have e (i j : Nat) : (l.drop i).take j ++ l.drop (i + j) = l.drop i := by
    rw [← List.drop_drop]; exact List.take_append_drop j _
  simp only [uuidCut, List.filter_append, List.filter_cons, hdash, Bool.false_eq_true, ↓reduceIte,
    hf _ fun c hc => List.mem_of_mem_take hc,
    hf _ fun c hc => List.mem_of_mem_drop (List.mem_of_mem_take hc), hf _ fun c hc => List.mem_of_mem_drop hc]
  rw [e 16 4, e 12 4, e 8 4, List.take_append_drop]

private theorem map_map_cancel {f g : Nat → Nat} {l : List Nat} (h : ∀ x ∈ l, g (f x) = x) :
    (l.map f).map g = l := by
  rw [List.map_map]
  exact (List.map_congr_left h).trans (List.map_id l)

theorem run_hex_iff (n : Nat) (l : List Nat) :
    Run .hex n l ↔ ∃ h : List Nat, h.length = n ∧ (∀ x ∈ h, x < 16) ∧ l = h.map hexChar := by
  constructor
  · rintro ⟨hl, hc⟩
    refine ⟨l.map hexVal, by rw [List.length_map, hl], fun x hx => ?_,
      (map_map_cancel fun c hc' => hexChar_hexVal c (hc c hc')).symm⟩
    obtain ⟨c, hc', rfl⟩ := List.mem_map.mp hx
    exact hexVal_lt c (hc c hc')
  · rintro ⟨h, rfl, hx, rfl⟩
    refine ⟨List.length_map _, fun c hc => ?_⟩
    obtain ⟨x, hx', rfl⟩ := List.mem_map.mp hc
    exact isLowerHex_hexChar x (hx x hx')

theorem shape_uuid_iff (t : List Nat) :
    shape .uuid t = true ↔ ∃ h, h.length = 32 ∧ (∀ x ∈ h, x < 16) ∧ t = uuidString h := by
  simp only [shape, matchTpl_uuid_iff, run_hex_iff]
  constructor
  · rintro ⟨_, ⟨h, hl, hx, rfl⟩, rfl⟩; exact ⟨h, hl, hx, rfl⟩
  · rintro ⟨h, hl, hx, rfl⟩; exact ⟨_, ⟨h, hl, hx, rfl⟩, rfl⟩

theorem toPython_uuidString (h : List Nat) (hl : h.length = 32) (hx : ∀ x ∈ h, x < 16) :
    toPython .uuid (uuidString h) = some (.uuid h) := by
  have hr : Run .hex 32 (h.map hexChar) := (run_hex_iff _ _).mpr ⟨h, hl, hx, rfl⟩
  rw [toPython, show uuidString h = uuidCut (h.map hexChar) from rfl, filter_uuidCut _ hr,
    map_map_cancel fun x _ => hexVal_hexChar x]

theorem dateTpl_eq : dateTpl =
    List.replicate 4 .digit ++ .dash :: (List.replicate 2 .digit ++ .dash :: List.replicate 2 .digit) := by
  decide

theorem run_digit_iff (n : Nat) (l : List Nat) :
    Run .digit n l ↔ ∃ v, v < 10 ^ n ∧ l = padDigits n v := by
  constructor
  · rintro ⟨rfl, h⟩
    exact ⟨digitsVal l, digitsVal_lt l h, (padDigits_digitsVal l h).symm⟩
  · rintro ⟨v, -, rfl⟩
    exact ⟨padDigits_length n v, padDigits_digits n v⟩

/-- the three slices `date.to_python` takes -/
theorem date_slices (A B C : List Nat) (hA : A.length = 4) (hB : B.length = 2) (hC : C.length = 2) :
    (A ++ cDash :: (B ++ cDash :: C)).take 4 = A ∧
    ((A ++ cDash :: (B ++ cDash :: C)).drop 5).take 2 = B ∧
    ((A ++ cDash :: (B ++ cDash :: C)).drop 8).take 2 = C := by
  refine ⟨List.take_left' hA, ?_, ?_⟩
  · have : (A ++ cDash :: (B ++ cDash :: C)) = (A ++ [cDash]) ++ (B ++ cDash :: C) := by simp
    rw [this, List.drop_left' (by simp [hA]), List.take_left' hB]
  · have : (A ++ cDash :: (B ++ cDash :: C)) = (A ++ [cDash] ++ B ++ [cDash]) ++ C := by simp
    rw [this, List.drop_left' (by simp [hA, hB])]
    rw [← hC, List.take_length]

theorem daysIn_le (y m : Nat) : daysIn y m ≤ 31 := by
  unfold daysIn
  split
  · split <;> omega
  · split <;> omega

theorem validDate_bounds (y m d : Nat) (h : validDate y m d = true) : y < 10000 ∧ m < 100 ∧ d < 100 := by
  simp only [validDate, Bool.and_eq_true, decide_eq_true_eq] at h
  have := daysIn_le y m
  omega

theorem toPython_dateString (y m d : Nat) (hy : y < 10000) (hm : m < 100) (hd : d < 100) :
    toPython .date (dateString y m d) = if validDate y m d = true then some (.date y m d) else none := by
  obtain ⟨h1, h2, h3⟩ := date_slices (padDigits 4 y) (padDigits 2 m) (padDigits 2 d)
    (padDigits_length _ _) (padDigits_length _ _) (padDigits_length _ _)
  simp only [toPython, dateString, h1, h2, h3, digitsVal_padDigits]
  rw [Nat.mod_eq_of_lt hy, Nat.mod_eq_of_lt hm, Nat.mod_eq_of_lt hd]

theorem shape_date_iff (t : List Nat) :
    shape .date t = true ↔ ∃ y m d, y < 10000 ∧ m < 100 ∧ d < 100 ∧ t = dateString y m d := by
  simp only [shape, dateTpl_eq, matchTpl_group, matchTpl_replicate, run_digit_iff]
  constructor
  · rintro ⟨_, _, ⟨y, hy, rfl⟩, rfl, _, _, ⟨m, hm, rfl⟩, rfl, d, hd, rfl⟩
    exact ⟨y, m, d, hy, hm, hd, rfl⟩
  · rintro ⟨y, m, d, hy, hm, hd, rfl⟩
    exact ⟨_, _, ⟨y, hy, rfl⟩, rfl, _, _, ⟨m, hm, rfl⟩, rfl, d, hd, rfl⟩

end Baize.Router
