/-
C17 — specification vocabulary: what the theorems of Props/C17.lean talk about.

Everything here is about PLAIN PAIR LISTS (`Spec.*`: the reference semantics of a multi-value
mapping, no dict), about the consistency invariant `Inv` of the two-representation model, and about
well-formed strings.  No proofs in this file.
-/
import BaizeVerif.Model.MultiMap

namespace Baize.MultiMap

namespace Spec
/-- the values of `k`, in order -/
def values (l : Pairs) (k : Nat) : List Nat := (l.filter fun p => p.1 == k).map (·.2)
/-- the value indexing must give: the last one -/
def last (l : Pairs) (k : Nat) : Option Nat := (values l k).getLast?
/-- `k` occurs as a key -/
def has (l : Pairs) (k : Nat) : Prop := k ∈ l.map (·.1)
/-- all pairs of `k` removed -/
def without (l : Pairs) (k : Nat) : Pairs := l.filter fun p => p.1 != k
/-- overwrite the first pair of `k` with `(k, v)`, drop its other pairs -/
def replaceFirst (k v : Nat) : Pairs → Pairs
  | [] => []
  | p :: r => if p.1 = k then (k, v) :: without r k else p :: replaceFirst k v r
/-- assignment `m[k] = v` on a pair list -/
def assign (l : Pairs) (k v : Nat) : Pairs :=
  if l.any (fun p => p.1 == k) then replaceFirst k v l else l ++ [(k, v)]
/-- assign a sequence of items, in order -/
def assignAll (l : Pairs) (ps : Pairs) : Pairs := ps.foldl (fun l p => assign l p.1 p.2) l
end Spec

/-- distinct elements in order of first occurrence -/
def Spec.distinct : List Nat → List Nat
  | [] => []
  | a :: r => a :: (Spec.distinct r).filter (· != a)

/-- the pair list a constructor argument denotes -/
def Spec.initial : Raw → Pairs
  | .none => []
  | .pairs ps => ps
  | .mapping ps => dictOf ps
  | .multi ps => ps

/-- the abstract operation on a plain pair list: `Step l op l' o` = "from `l`, `op` may leave `l'`
and answer `o`".  Deterministic except for `popitem`, which may pick any present key. -/
def Spec.Step (l : Pairs) (op : Op) (l' : Pairs) (o : Out) : Prop :=
  match op with
  | .setitem k v => l' = assign l k v ∧ o = .none
  | .delitem k => l' = without l k ∧ o = (if (last l k).isSome then Out.none else Out.keyError)
  | .append k v => l' = l ++ [(k, v)] ∧ o = .none
  | .setlist k vs => l' = without l k ++ vs.map (fun v => (k, v)) ∧ o = .none
  | .poplist k => l' = without l k ∧ o = .vals (values l k)
  | .pop k =>
    match last l k with
    | some v => l' = without l k ∧ o = .val v
    | none => l' = l ∧ o = .keyError
  | .popD k d =>
    match last l k with
    | some v => l' = without l k ∧ o = .val v
    | none => l' = l ∧ o = .val d
  | .popitem => (l = [] ∧ l' = [] ∧ o = .keyError) ∨
      ∃ k v, last l k = some v ∧ l' = without l k ∧ o = .item k v
  | .setdefault k d =>
    match last l k with
    | some v => l' = l ∧ o = .val v
    | none => l' = l ++ [(k, d)] ∧ o = .val d
  | .updatePairs ps => l' = Spec.assignAll l ps ∧ o = .none
  | .updateMapping ps => l' = Spec.assignAll l (dictOf ps) ∧ o = .none
  | .updateMulti ps => l' = Spec.assignAll l (dictOf ps) ∧ o = .none
  | .updateKw ps => l' = Spec.assignAll l (dictOf ps) ∧ o = .none
  | .clear => l' = [] ∧ o = .none

/-- an abstract run over plain pair lists -/
def Spec.Run : Pairs → List Op → Pairs → List Out → Prop
  | l, [], l', os => l' = l ∧ os = []
  | l, op :: ops, l', os =>
    ∃ m o os', Spec.Step l op m o ∧ Spec.Run m ops l' os' ∧ os = o :: os'

/-- keys of the dict representation, in dict order -/
def keysOf (d : Pairs) : List Nat := d.map (·.1)

/-- the two representations agree: the dict has unique keys and maps every key to the last of its
values in the pair list (so the key sets agree as well) -/
def Inv (s : State) : Prop := (keysOf s.dict).Nodup ∧ ∀ k, dGet s.dict k = Spec.last s.list k

/-- a Unicode scalar value: what a Python `str` can hold apart from lone surrogates, and what UTF-8
can encode -/
def Scalar (c : Nat) : Prop := c < 0x110000 ∧ ¬ (0xD800 ≤ c ∧ c < 0xE000)

instance (c : Nat) : Decidable (Scalar c) := by unfold Scalar; infer_instance

/-- a `str` without lone surrogates -/
def ValidStr (s : Str) : Prop := ∀ c ∈ s, Scalar c

instance (s : Str) : Decidable (ValidStr s) := by unfold ValidStr; infer_instance

end Baize.MultiMap
