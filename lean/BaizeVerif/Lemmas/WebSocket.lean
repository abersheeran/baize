/-
C11, proof side.  The specification is a 4-state DFA over the forwarded event types, tied to
`application_state` by `dfaOf`.  `send()` and `receive()` are evaluated once, into closed forms; `StepOk` is
what one call guarantees, `step_ok` proves it for every call, and the theorems about whole runs are
inductions over `step_ok`.  Two functions are called `run`: lemmas about the DFA's are `Dfa.run_*` (and `run_single`), the
other `run_*` are about the model's.
-/
import BaizeVerif.Model.WebSocket

namespace Baize.WebSocket

/-! ### The specification: which words may reach the server's `send` -/

def tAccept : String := "websocket.accept"
def tSend : String := "websocket.send"
def tClose : String := "websocket.close"

/-- nothing forwarded yet / accepted / closed / a forwarded event broke the protocol -/
inductive Dfa where
  | start | opened | closed | dead
  deriving DecidableEq, Repr

def Dfa.step : Dfa → String → Dfa
  | .start, ty => if ty = tAccept then .opened else if ty = tClose then .closed else .dead
  | .opened, ty => if ty = tSend then .opened else if ty = tClose then .closed else .dead
  | .closed, _ => .dead
  | .dead, _ => .dead

def Dfa.run (q : Dfa) (w : List String) : Dfa := w.foldl Dfa.step q

/-- `ε | close | accept · send* · close?` (`legal_iff` in `Props/C11`) -/
def Legal (w : List String) : Prop := Dfa.run .start w ≠ .dead

instance (w : List String) : Decidable (Legal w) := by unfold Legal; infer_instance

theorem Dfa.run_cons (q : Dfa) (a : String) (w : List String) :
    Dfa.run q (a :: w) = Dfa.run (q.step a) w := rfl

theorem run_single (q : Dfa) (ty : String) : Dfa.run q [ty] = q.step ty := rfl

theorem Dfa.run_append (q : Dfa) (a b : List String) : Dfa.run q (a ++ b) = Dfa.run (Dfa.run q a) b :=
  List.foldl_append

theorem Dfa.run_dead (w : List String) : Dfa.run .dead w = .dead := by
  induction w with
  | nil => rfl
  | cons a w ih => exact ih

theorem Dfa.run_closed (w : List String) : Dfa.run .closed w ≠ .dead ↔ w = [] := by
  cases w with
  | nil => exact ⟨fun _ => rfl, fun _ => Dfa.noConfusion⟩
  | cons a w => exact ⟨fun h => absurd (Dfa.run_dead w) h, nofun⟩

theorem Dfa.run_sends (n : Nat) : Dfa.run .opened (List.replicate n tSend) = .opened := by
  induction n with
  | zero => rfl
  | succ n ih => rwa [List.replicate_succ, Dfa.run_cons, Dfa.step, if_pos rfl]

theorem Dfa.run_opened (w : List String) :
    Dfa.run .opened w ≠ .dead ↔
      ∃ n, w = List.replicate n tSend ∨ w = List.replicate n tSend ++ [tClose] := by
  constructor
  · induction w with
    | nil => exact fun _ => ⟨0, .inl rfl⟩
    | cons a w ih =>
      rw [Dfa.run_cons, Dfa.step]
      split
      · next h1 =>
        intro h
        obtain ⟨n, hn | hn⟩ := ih h
        · exact ⟨n + 1, .inl (by rw [h1, hn, List.replicate_succ])⟩
        · exact ⟨n + 1, .inr (by rw [h1, hn, List.replicate_succ]; rfl)⟩
      · split
        · next h2 =>
          intro h
          exact ⟨0, .inr (by rw [h2, (Dfa.run_closed w).mp h]; rfl)⟩
        · exact fun h => absurd (Dfa.run_dead w) h
  · rintro ⟨n, rfl | rfl⟩
    · rw [Dfa.run_sends]; exact Dfa.noConfusion
    · rw [Dfa.run_append, Dfa.run_sends]; simp [Dfa.run, Dfa.step, tSend, tClose]

/-- the DFA state that `application_state` mirrors (the invariant, `forwarded_tracks_app`); none mirrors
`dead`, which is why a forwarded word is legal -/
def dfaOf : WsState → Dfa
  | .connecting => .start | .connected => .opened | .disconnected => .closed

theorem dfaOf_ne_dead (a : WsState) : dfaOf a ≠ .dead := by cases a <;> exact Dfa.noConfusion

theorem dfaOf_closed {a : WsState} (h : dfaOf a = .closed) : a = .disconnected := by
  cases a with
  | disconnected => rfl
  | _ => cases h

theorem dfaOf_step_close {a : WsState} (h : a ≠ .disconnected) : (dfaOf a).step tClose = .closed := by
  cases a with
  | disconnected => exact absurd rfl h
  | _ => simp [dfaOf, Dfa.step, tClose, tAccept, tSend]

/-! ### The interpreter in closed form

`wsSend_connecting` … `wsRecv_disconnected` are `send()` / `receive()` evaluated on the data extracted from
the source: they stop checking when the accepted sets, the state changes or the statement order in the
source change.  The `*_contains`, `*_sends`, `*_type` lemmas do the same for the guards and sent types of the
other methods. -/

theorem wsSend_connecting (c : WsState) (sc : List ServerEv) (p : Nat) (ty : String) (k : Nat) :
    wsSend ⟨c, .connecting, sc, p⟩ ty k =
      if ty = tAccept then (⟨c, .connected, sc, p⟩, [⟨ty, k, .connected⟩], .ok)
      else if ty = tClose then (⟨c, .disconnected, sc, p⟩, [⟨ty, k, .disconnected⟩], .ok)
      else (⟨c, .connecting, sc, p⟩, [], .assertionError) := by
  simp only [wsSend, sendBranch, sendConnecting, Gen.WebSocket.sendConnectingAccepted,
    Gen.WebSocket.sendConnectingTrans, Gen.WebSocket.sendConnectingDefault,
    Gen.WebSocket.sendConnectingOrder, runSend, Branch.target, tAccept, tClose]
  by_cases h1 : ty = "websocket.accept"
  · subst h1
    simp [List.lookup, WsState.assign]
  · by_cases h2 : ty = "websocket.close"
    · subst h2
      simp [List.lookup, WsState.assign]
    · simp [h1, h2]

theorem wsSend_connected (c : WsState) (sc : List ServerEv) (p : Nat) (ty : String) (k : Nat) :
    wsSend ⟨c, .connected, sc, p⟩ ty k =
      if ty = tSend then (⟨c, .connected, sc, p⟩, [⟨ty, k, .connected⟩], .ok)
      else if ty = tClose then (⟨c, .disconnected, sc, p⟩, [⟨ty, k, .disconnected⟩], .ok)
      else (⟨c, .connected, sc, p⟩, [], .assertionError) := by
  simp only [wsSend, sendBranch, sendConnected, Gen.WebSocket.sendConnectedAccepted,
    Gen.WebSocket.sendConnectedTrans, Gen.WebSocket.sendConnectedDefault,
    Gen.WebSocket.sendConnectedOrder, runSend, Branch.target, tSend, tClose]
  by_cases h1 : ty = "websocket.send"
  · subst h1
    simp [List.lookup, WsState.assign]
  · by_cases h2 : ty = "websocket.close"
    · subst h2
      simp [List.lookup, WsState.assign]
    · simp [h1, h2]

theorem wsSend_disconnected (c : WsState) (sc : List ServerEv) (p : Nat) (ty : String) (k : Nat) :
    wsSend ⟨c, .disconnected, sc, p⟩ ty k = (⟨c, .disconnected, sc, p⟩, [], .runtimeError) := rfl

theorem wsRecv_connecting (a : WsState) (sc : List ServerEv) (p : Nat) :
    wsRecv ⟨.connecting, a, sc, p⟩ =
      match sc[p]? with
      | none => (⟨.connecting, a, sc, p⟩, 1, .scriptEnd)
      | some e =>
        if e.type = tyConnect then (⟨.connected, a, sc, p + 1⟩, 1, .msg e)
        else (⟨.connecting, a, sc, p + 1⟩, 1, .assertionError) := by
  simp only [wsRecv, recvBranch, recvConnecting, Gen.WebSocket.recvConnectingAccepted,
    Gen.WebSocket.recvConnectingTrans, Gen.WebSocket.recvConnectingDefault,
    Gen.WebSocket.recvConnectingOrder, runRecv, Branch.target, tyConnect]
  cases sc[p]? with
  | none => rfl
  | some e =>
    by_cases h1 : e.type = "websocket.connect"
    · simp [h1, List.lookup, WsState.assign]
    · simp [h1]

theorem wsRecv_connected (a : WsState) (sc : List ServerEv) (p : Nat) :
    wsRecv ⟨.connected, a, sc, p⟩ =
      match sc[p]? with
      | none => (⟨.connected, a, sc, p⟩, 1, .scriptEnd)
      | some e =>
        if e.type = tyDisconnect then (⟨.disconnected, a, sc, p + 1⟩, 1, .msg e)
        else if e.type = tyReceive then (⟨.connected, a, sc, p + 1⟩, 1, .msg e)
        else (⟨.connected, a, sc, p + 1⟩, 1, .assertionError) := by
  simp only [wsRecv, recvBranch, recvConnected, Gen.WebSocket.recvConnectedAccepted,
    Gen.WebSocket.recvConnectedTrans, Gen.WebSocket.recvConnectedDefault,
    Gen.WebSocket.recvConnectedOrder, runRecv, Branch.target, tyDisconnect, tyReceive]
  cases sc[p]? with
  | none => rfl
  | some e =>
    by_cases h1 : e.type = "websocket.disconnect"
    · simp [h1, List.lookup, WsState.assign]
    · by_cases h2 : e.type = "websocket.receive"
      · simp [h2, List.lookup, WsState.assign]
      · simp [h1, h2]

theorem wsRecv_disconnected (a : WsState) (sc : List ServerEv) (p : Nat) :
    wsRecv ⟨.disconnected, a, sc, p⟩ = (⟨.disconnected, a, sc, p⟩, 0, .runtimeError) := rfl

theorem wsRecv_recvs_le (s : State) : (wsRecv s).2.1 ≤ 1 := by
  unfold wsRecv recvBranch
  repeat' split
  all_goals simp

theorem typedGuard_contains (kind : Nat) (a : WsState) :
    (typedGuard kind).contains a.rank = decide (a = .connected) := by
  unfold typedGuard
  split <;> cases a <;> rfl

theorem acceptWhen_contains (c : WsState) :
    Gen.WebSocket.acceptRecvWhen.contains c.rank = decide (c = .connecting) := by
  cases c <;> rfl

theorem closeWhen_contains (a : WsState) :
    Gen.WebSocket.closeWhen.contains a.rank = decide (a ≠ .disconnected) := by
  cases a <;> rfl

theorem accept_sends : Gen.WebSocket.acceptSends = [tAccept] := rfl
theorem close_sends : Gen.WebSocket.closeSends = [tClose] := rfl
theorem sendText_type : Gen.WebSocket.sendTextType = tSend := rfl
theorem sendBytes_type : Gen.WebSocket.sendBytesType = tSend := rfl

theorem sendAll_single (s : State) (k : Nat) (ty : String) : sendAll s k [ty] = wsSend s ty k := by
  unfold sendAll
  rcases h : wsSend s ty k with ⟨s1, f1, r⟩
  cases r <;> simp [sendAll]

theorem step_accept (s : State) :
    step s .accept =
      if s.client = .connecting then
        match wsRecv s with
        | (s1, n, .msg _) =>
          ((wsSend s1 tAccept 0).1, ⟨(wsSend s1 tAccept 0).2.1, n, [], (wsSend s1 tAccept 0).2.2.fin⟩)
        | (s1, n, e) => (s1, ⟨[], n, [], e.fin⟩)
      else ((wsSend s tAccept 0).1, ⟨(wsSend s tAccept 0).2.1, 0, [], (wsSend s tAccept 0).2.2.fin⟩) := by
  unfold step
  simp only [acceptWhen_contains, accept_sends, sendAll_single, decide_eq_true_eq]
  rfl

theorem step_close (s : State) :
    step s .close =
      if s.app = .disconnected then (s, ⟨[], 0, [], .ok⟩)
      else ((wsSend s tClose 0).1, ⟨(wsSend s tClose 0).2.1, 0, [], (wsSend s tClose 0).2.2.fin⟩) := by
  unfold step
  simp only [closeWhen_contains, close_sends, sendAll_single, decide_eq_true_eq, ite_not]

/-- the call raised; the silent end of an iterator (`stop`) is not an error -/
def Fin.isError : Fin → Bool
  | .ok => false | .stop => false | _ => true

/-- `send()` judged by the DFA: a live step is forwarded, with `application_state` already at the next state;
a step to `dead` raises and changes nothing -/
theorem wsSend_cases (s : State) (ty : String) (k : Nat) :
    (∃ a', dfaOf a' = (dfaOf s.app).step ty ∧ s.app.rank ≤ a'.rank ∧
        wsSend s ty k = ({ s with app := a' }, [⟨ty, k, a'⟩], .ok)) ∨
    ((dfaOf s.app).step ty = .dead ∧
      ∃ err, err.fin.isError = true ∧ wsSend s ty k = (s, [], err)) := by
  obtain ⟨c, a, sc, p⟩ := s
  cases a with
  | disconnected => exact .inr ⟨rfl, .runtimeError, rfl, rfl⟩
  | connecting | connected =>
    simp only [wsSend_connecting, wsSend_connected, dfaOf, Dfa.step]
    split
    · exact .inl ⟨.connected, rfl, by decide, rfl⟩
    · split
      · exact .inl ⟨.disconnected, rfl, by decide, rfl⟩
      · exact .inr ⟨rfl, .assertionError, rfl, rfl⟩

theorem wsSend_illegal {s : State} {ty : String} (hill : (dfaOf s.app).step ty = .dead) (k : Nat) :
    ∃ err, err.fin.isError = true ∧ wsSend s ty k = (s, [], err) :=
  ((wsSend_cases s ty k).resolve_left fun ⟨a', hd, _⟩ => dfaOf_ne_dead a' (hd.trans hill)).2

theorem wsSend_legal {s : State} {ty : String} (hleg : (dfaOf s.app).step ty ≠ .dead) (k : Nat) :
    ∃ a', dfaOf a' = (dfaOf s.app).step ty ∧ s.app.rank ≤ a'.rank ∧
      wsSend s ty k = ({ s with app := a' }, [⟨ty, k, a'⟩], .ok) :=
  (wsSend_cases s ty k).resolve_right fun h => hleg h.1

theorem pick_cases (kind : Nat) (e : ServerEv) :
    (pick kind e = .value e ∧ e.type = tyReceive) ∨
    (∃ f, pick kind e = .fail f ∧ f.isError = true ∧ (∀ c, f = .disconnect c → e.type = tyDisconnect)) := by
  unfold pick
  split
  · next hd =>
    split
    · exact .inr ⟨_, rfl, rfl, fun _ _ => hd⟩
    · exact .inr ⟨_, rfl, rfl, nofun⟩
  · split
    · exact .inl ⟨rfl, rfl⟩
    · exact .inl ⟨rfl, rfl⟩
    · exact .inr ⟨_, rfl, rfl, nofun⟩

/-! ### What one call guarantees

`StepOk` holds, per call, what the theorems of `Props/C11` read off or induct on; `RecvOk` is its form for
calls that only receive.  First the ways a `receive()` ends (`idle`: the server is not asked; `exhausted`,
`returned`, `refused`: it is), then the steps by which the code builds the other receiving calls from it. -/

/-- the call told the application of the disconnect: it raised `WebSocketDisconnect`, ended an iterator, or
(plain `receive()`) returned the disconnect message itself -/
def Out.deliversDisconnect (o : Out) : Prop :=
  (∃ c, o.fin = .disconnect c) ∨ o.fin = .stop ∨ ∃ e ∈ o.vals, e.type = tyDisconnect

structure StepOk (s : State) (op : Op) (s' : State) (o : Out) : Prop where
  script : s'.script = s.script
  -- the cursor moves by the `receive()` calls issued; one past the end of the script consumes nothing
  pos_hi : s'.pos ≤ s.pos + o.recvs
  pos_eq : o.fin ≠ .scriptEnd → s'.pos = s.pos + o.recvs
  -- the returned values are the script entries from the cursor on, all of them consumed
  vals_prefix : o.vals <+: s.script.drop s.pos
  vals_len : s.pos + o.vals.length ≤ s'.pos
  -- at most one consumed event is not returned: the last, when the call raised or is `accept()`
  -- swallowing the connect event
  lost : s'.pos ≤ s.pos + o.vals.length + 1
  lost_fin : s'.pos = s.pos + o.vals.length + 1 → o.fin ≠ .ok ∨ op = .accept
  client_mono : s.client.rank ≤ s'.client.rank
  app_mono : s.app.rank ≤ s'.app.rank
  -- the forwarded events take the DFA from the mirror of `application_state` before to that after
  dfa : Dfa.run (dfaOf s.app) (o.fwd.map Fwd.ty) = dfaOf s'.app
  err : o.fin.isError = true → o.fwd = [] ∧ s'.app = s.app
  -- a DISCONNECTED client asks the server nothing and returns nothing
  after_disc : s.client = .disconnected → o.recvs = 0 ∧ o.vals = []
  delivered : o.deliversDisconnect → s'.client = .disconnected

/-- `StepOk` for a call that forwards nothing, `o = ⟨[], n, vals, fin⟩`: `app` stands for `app_mono`, `dfa`
and `err`, `lost_fin` has no `accept()` case, `delivered` spells `Out.deliversDisconnect` out; the other
fields are `StepOk`'s. -/
structure RecvOk (s s' : State) (n : Nat) (vals : List ServerEv) (fin : Fin) : Prop where
  app : s'.app = s.app
  script : s'.script = s.script
  pos_hi : s'.pos ≤ s.pos + n
  pos_eq : fin ≠ .scriptEnd → s'.pos = s.pos + n
  vals_prefix : vals <+: s.script.drop s.pos
  vals_len : s.pos + vals.length ≤ s'.pos
  lost : s'.pos ≤ s.pos + vals.length + 1
  lost_fin : s'.pos = s.pos + vals.length + 1 → fin ≠ .ok
  client_mono : s.client.rank ≤ s'.client.rank
  after_disc : s.client = .disconnected → n = 0 ∧ vals = []
  delivered : ((∃ c, fin = .disconnect c) ∨ fin = .stop ∨ ∃ e ∈ vals, e.type = tyDisconnect) →
    s'.client = .disconnected

theorem RecvOk.toStepOk {s s' : State} {n : Nat} {vals : List ServerEv} {fin : Fin} (op : Op)
    (h : RecvOk s s' n vals fin) : StepOk s op s' ⟨[], n, vals, fin⟩ where
  script := h.script
  pos_hi := h.pos_hi
  pos_eq := h.pos_eq
  vals_prefix := h.vals_prefix
  vals_len := h.vals_len
  lost := h.lost
  lost_fin := fun hh => Or.inl (h.lost_fin hh)
  client_mono := h.client_mono
  app_mono := by rw [h.app]; exact Nat.le_refl _
  dfa := by rw [h.app]; rfl
  err := fun _ => ⟨rfl, h.app⟩
  after_disc := h.after_disc
  delivered := h.delivered

theorem stays_disconnected {c c' : WsState} (h : c.rank ≤ c'.rank) (hc : c = .disconnected) :
    c' = .disconnected := by
  subst hc
  cases c' with
  | disconnected => rfl
  | _ => exact absurd h (by decide)

theorem single_prefix {l : List ServerEv} {p : Nat} {e : ServerEv} (h : l[p]? = some e) :
    [e] <+: l.drop p := by
  obtain ⟨hp, rfl⟩ := List.getElem?_eq_some_iff.mp h
  rw [List.drop_eq_getElem_cons hp]
  exact ⟨_, rfl⟩

section RecvOk
variable {s s' s1 s2 : State} {n n1 n2 : Nat} {vals v1 v2 : List ServerEv} {fin : Fin}

theorem RecvOk.idle (s : State) (hd : ∀ c, fin ≠ .disconnect c) (hs : fin ≠ .stop) :
    RecvOk s s 0 [] fin where
  app := rfl
  script := rfl
  pos_hi := Nat.le_refl _
  pos_eq := fun _ => rfl
  vals_prefix := List.nil_prefix
  vals_len := Nat.le_refl _
  lost := Nat.le_succ _
  lost_fin := fun h => absurd h (Nat.ne_of_lt (Nat.lt_succ_self _))
  client_mono := Nat.le_refl _
  after_disc := fun _ => ⟨rfl, rfl⟩
  delivered := by
    rintro (⟨c, h⟩ | h | ⟨e, he, _⟩)
    · exact absurd h (hd c)
    · exact absurd h hs
    · cases he

theorem RecvOk.exhausted (s : State) (hc : s.client ≠ .disconnected) : RecvOk s s 1 [] .scriptEnd :=
  { RecvOk.idle s (fun _ => Fin.noConfusion) Fin.noConfusion with
    pos_hi := Nat.le_succ _
    pos_eq := fun h => absurd rfl h
    after_disc := fun h => absurd h hc }

theorem RecvOk.returned {c c' a : WsState} {sc : List ServerEv} {p : Nat} {e : ServerEv}
    (h : sc[p]? = some e) (hc : c ≠ .disconnected) (hm : c.rank ≤ c'.rank)
    (hd : e.type = tyDisconnect → c' = .disconnected) :
    RecvOk ⟨c, a, sc, p⟩ ⟨c', a, sc, p + 1⟩ 1 [e] .ok where
  app := rfl
  script := rfl
  pos_hi := Nat.le_refl _
  pos_eq := fun _ => rfl
  vals_prefix := single_prefix h
  vals_len := Nat.le_refl _
  lost := Nat.le_succ _
  lost_fin := fun h => absurd h (Nat.ne_of_lt (Nat.lt_succ_self _))
  client_mono := hm
  after_disc := fun h => absurd h hc
  delivered := by
    rintro (⟨_, ⟨⟩⟩ | ⟨⟨⟩⟩ | ⟨_, he, ht⟩)
    cases List.mem_singleton.mp he
    exact hd ht

theorem RecvOk.refused {c a : WsState} {sc : List ServerEv} {p : Nat} (hc : c ≠ .disconnected) :
    RecvOk ⟨c, a, sc, p⟩ ⟨c, a, sc, p + 1⟩ 1 [] .assertionError where
  app := rfl
  script := rfl
  pos_hi := Nat.le_refl _
  pos_eq := fun _ => rfl
  vals_prefix := List.nil_prefix
  vals_len := Nat.le_succ _
  lost := Nat.le_refl _
  lost_fin := fun _ => Fin.noConfusion
  client_mono := Nat.le_refl _
  after_disc := fun h => absurd h hc
  delivered := by rintro (⟨_, ⟨⟩⟩ | ⟨⟨⟩⟩ | ⟨_, ⟨⟩, _⟩)

theorem RecvOk.pos_of_ok (h : RecvOk s s' n vals .ok) : s'.pos = s.pos + vals.length := by
  have h1 := h.vals_len
  have h2 := h.lost
  by_cases hh : s'.pos = s.pos + vals.length + 1
  · exact absurd rfl (h.lost_fin hh)
  · omega

/-- `receive_*`: `_raise_on_disconnect` or the missing key raises `f` instead of returning the message -/
theorem RecvOk.raise {e : ServerEv} {f : Fin} (h : RecvOk s s' n [e] .ok) (hf : f.isError = true)
    (hd : ∀ c, f = .disconnect c → e.type = tyDisconnect) : RecvOk s s' n [] f where
  app := h.app
  script := h.script
  pos_hi := h.pos_hi
  pos_eq := fun _ => h.pos_eq Fin.noConfusion
  vals_prefix := List.nil_prefix
  vals_len := Nat.le_trans (Nat.le_add_right _ _) h.vals_len
  lost := Nat.le_of_eq h.pos_of_ok
  lost_fin := fun _ hok => by rw [hok] at hf; cases hf
  client_mono := h.client_mono
  after_disc := fun hc => ⟨(h.after_disc hc).1, rfl⟩
  delivered := by
    rintro (⟨c, hc⟩ | hs | ⟨e', he', _⟩)
    · exact h.delivered (.inr (.inr ⟨e, List.mem_singleton_self e, hd c hc⟩))
    · rw [hs] at hf; cases hf
    · cases he'

/-- `iter_*` turns `WebSocketDisconnect` into the end of the iteration -/
theorem RecvOk.stop {c : Nat} (h : RecvOk s s' n [] (.disconnect c)) : RecvOk s s' n [] .stop :=
  { h with
    pos_eq := fun _ => h.pos_eq Fin.noConfusion
    lost_fin := fun _ => Fin.noConfusion
    delivered := fun _ => h.delivered (.inl ⟨c, rfl⟩) }

/-- the loop of `iter_*`: a yielded value, then the remaining pulls -/
theorem RecvOk.trans (h1 : RecvOk s s1 n1 v1 .ok) (h2 : RecvOk s1 s2 n2 v2 fin) :
    RecvOk s s2 (n1 + n2) (v1 ++ v2) fin where
  app := h2.app.trans h1.app
  script := h2.script.trans h1.script
  pos_hi := by have := h1.pos_hi; have := h2.pos_hi; omega
  pos_eq := fun hf => by have := h1.pos_eq Fin.noConfusion; have := h2.pos_eq hf; omega
  vals_prefix := by
    obtain ⟨t, ht⟩ := h1.vals_prefix
    have h := h2.vals_prefix
    rw [h1.script, h1.pos_of_ok, ← List.drop_drop, ← ht, List.drop_left] at h
    rw [← ht]
    exact (List.prefix_append_right_inj v1).mpr h
  vals_len := by have := h1.pos_of_ok; have := h2.vals_len; rw [List.length_append]; omega
  lost := by have := h1.pos_of_ok; have := h2.lost; rw [List.length_append]; omega
  lost_fin := fun hh => h2.lost_fin (by have := h1.pos_of_ok; rw [List.length_append] at hh; omega)
  client_mono := Nat.le_trans h1.client_mono h2.client_mono
  after_disc := fun hc => by
    have a := h1.after_disc hc
    have b := h2.after_disc (stays_disconnected h1.client_mono hc)
    rw [a.1, a.2, b.1, b.2]
    exact ⟨rfl, rfl⟩
  delivered := by
    rintro (hh | hh | ⟨e, he, ht⟩)
    · exact h2.delivered (.inl hh)
    · exact h2.delivered (.inr (.inl hh))
    · rcases List.mem_append.mp he with he | he
      · exact stays_disconnected h2.client_mono (h1.delivered (.inr (.inr ⟨e, he, ht⟩)))
      · exact h2.delivered (.inr (.inr ⟨e, he, ht⟩))

/-- `accept()` on a CONNECTING client: `receive()` swallows the connect event, then `send(accept)` -/
theorem RecvOk.then_accept {e : ServerEv} {fwd : List Fwd} (h : RecvOk s s1 n [e] .ok)
    (hs : StepOk s1 .accept s2 ⟨fwd, 0, [], fin⟩) : StepOk s .accept s2 ⟨fwd, n, [], fin⟩ where
  script := hs.script.trans h.script
  pos_hi := by have := h.pos_hi; have := hs.pos_hi; dsimp only at *; omega
  pos_eq := fun hf => by
    have := h.pos_eq Fin.noConfusion; have := hs.pos_eq hf; dsimp only at *; omega
  vals_prefix := List.nil_prefix
  vals_len := Nat.le_trans (Nat.le_trans (Nat.le_add_right _ _) h.vals_len) hs.vals_len
  lost := by have := h.pos_of_ok; have := hs.pos_hi; dsimp only [List.length] at *; omega
  lost_fin := fun _ => .inr rfl
  client_mono := Nat.le_trans h.client_mono hs.client_mono
  app_mono := h.app ▸ hs.app_mono
  dfa := h.app ▸ hs.dfa
  err := h.app ▸ hs.err
  after_disc := fun hc => ⟨(h.after_disc hc).1, rfl⟩
  delivered := hs.delivered

end RecvOk

/-! ### Every call gives what `StepOk` asks

`RecvOk` for `receive()` from its closed forms, then along the steps above; `StepOk` for `send()` from
`wsSend_cases`; `step_ok` puts each operation together from these. -/

def TypedRes.vals : TypedRes → List ServerEv
  | .value e => [e] | .fail _ => []
def TypedRes.fin : TypedRes → Fin
  | .value _ => .ok | .fail f => f

def RecvRes.vals : RecvRes → List ServerEv
  | .msg e => [e] | _ => []

/-- One leaf per row of `wsRecv_connecting` / `wsRecv_connected`, in their order, each of the shape
`exhausted`, `returned` or `refused`; `returned` asks of its row that the client state does not go back and
that a returned disconnect event leaves it DISCONNECTED. -/
theorem recvOk_receive (s : State) :
    RecvOk s (wsRecv s).1 (wsRecv s).2.1 (wsRecv s).2.2.vals (wsRecv s).2.2.fin := by
  obtain ⟨c, a, sc, p⟩ := s
  cases c with
  | disconnected => exact RecvOk.idle _ (fun _ => Fin.noConfusion) Fin.noConfusion
  | connecting =>
    rw [wsRecv_connecting]
    cases h : sc[p]? with
    | none => exact .exhausted _ nofun
    | some e =>
      dsimp only
      split
      · next h1 =>
        exact .returned h nofun (by decide) fun hd => by simp [h1, tyConnect, tyDisconnect] at hd
      · exact .refused nofun
  | connected =>
    rw [wsRecv_connected]
    cases h : sc[p]? with
    | none => exact .exhausted _ nofun
    | some e =>
      dsimp only
      split
      · exact .returned h nofun (by decide) fun _ => rfl
      · split
        · next h1 _ => exact .returned h nofun (Nat.le_refl _) fun hd => absurd hd h1
        · exact .refused nofun

theorem recvOk_typed (kind : Nat) (s : State) :
    RecvOk s (typedRecv kind s).1 (typedRecv kind s).2.1 (typedRecv kind s).2.2.vals
      (typedRecv kind s).2.2.fin := by
  unfold typedRecv
  split
  · have h := recvOk_receive s
    generalize wsRecv s = w at h ⊢
    obtain ⟨s1, n, r⟩ := w
    cases r with
    | msg e =>
      rcases pick_cases kind e with ⟨hp, _⟩ | ⟨f, hp, hf, hd⟩ <;> simp only [hp]
      · exact h
      · exact h.raise hf hd
    | _ => exact h
  · exact RecvOk.idle s (fun _ => Fin.noConfusion) Fin.noConfusion

theorem recvOk_iter (kind : Nat) (n : Nat) (s : State) :
    RecvOk s (iterRecv kind n s).1 (iterRecv kind n s).2.1 (iterRecv kind n s).2.2.1
      (iterRecv kind n s).2.2.2 := by
  induction n generalizing s with
  | zero => exact RecvOk.idle s (fun _ => Fin.noConfusion) Fin.noConfusion
  | succ n ih =>
    unfold iterRecv
    have h := recvOk_typed kind s
    generalize typedRecv kind s = w at h ⊢
    obtain ⟨s1, k, r⟩ := w
    cases r with
    | value e => exact h.trans (ih s1)
    | fail f =>
      cases f with
      | disconnect c => exact h.stop
      | _ => exact h

/-- on the receiving side a call that only sends is an idle receive -/
theorem stepOk_send (s : State) (op : Op) (ty : String) (k : Nat) :
    StepOk s op (wsSend s ty k).1 ⟨(wsSend s ty k).2.1, 0, [], (wsSend s ty k).2.2.fin⟩ := by
  rcases wsSend_cases s ty k with ⟨a', hd, hr, h⟩ | ⟨-, err, -, h⟩ <;> rw [h]
  · exact { (RecvOk.idle s (fin := .ok) (fun _ => Fin.noConfusion) Fin.noConfusion).toStepOk op with
      app_mono := hr
      dfa := hd.symm
      err := nofun }
  · exact (RecvOk.idle s (by cases err <;> exact fun _ => Fin.noConfusion)
      (by cases err <;> exact Fin.noConfusion)).toStepOk op

theorem step_receive (s : State) :
    step s .receive = ((wsRecv s).1, ⟨[], (wsRecv s).2.1, (wsRecv s).2.2.vals, (wsRecv s).2.2.fin⟩) := by
  unfold step
  rcases wsRecv s with ⟨s1, n, r⟩
  cases r <;> rfl

theorem step_typed (kind : Nat) (s : State) :
    (match typedRecv kind s with
      | (s1, n, .value e) => ((s1, ⟨[], n, [e], .ok⟩) : State × Out)
      | (s1, n, .fail f) => (s1, ⟨[], n, [], f⟩)) =
    ((typedRecv kind s).1, ⟨[], (typedRecv kind s).2.1, (typedRecv kind s).2.2.vals,
      (typedRecv kind s).2.2.fin⟩) := by
  rcases typedRecv kind s with ⟨s1, n, r⟩
  cases r <;> rfl

theorem step_receiveText (s : State) :
    step s .receiveText = ((typedRecv 1 s).1, ⟨[], (typedRecv 1 s).2.1, (typedRecv 1 s).2.2.vals,
      (typedRecv 1 s).2.2.fin⟩) := step_typed 1 s

theorem step_receiveBytes (s : State) :
    step s .receiveBytes = ((typedRecv 2 s).1, ⟨[], (typedRecv 2 s).2.1, (typedRecv 2 s).2.2.vals,
      (typedRecv 2 s).2.2.fin⟩) := step_typed 2 s

theorem step_ok (s : State) (op : Op) : StepOk s op (step s op).1 (step s op).2 := by
  cases op with
  | accept =>
    rw [step_accept]
    split
    · have h := recvOk_receive s
      generalize wsRecv s = w at h ⊢
      obtain ⟨s1, n, r⟩ := w
      cases r with
      | msg e => exact h.then_accept (stepOk_send s1 .accept tAccept 0)
      | _ => exact h.toStepOk .accept
    · exact stepOk_send s .accept tAccept 0
  | receive => rw [step_receive]; exact (recvOk_receive s).toStepOk .receive
  | receiveText => rw [step_receiveText]; exact (recvOk_typed 1 s).toStepOk .receiveText
  | receiveBytes => rw [step_receiveBytes]; exact (recvOk_typed 2 s).toStepOk .receiveBytes
  | iterText n => exact (recvOk_iter 1 n s).toStepOk (.iterText n)
  | iterBytes n => exact (recvOk_iter 2 n s).toStepOk (.iterBytes n)
  | sendText => exact stepOk_send s .sendText Gen.WebSocket.sendTextType 1
  | sendBytes => exact stepOk_send s .sendBytes Gen.WebSocket.sendBytesType 2
  | rawSend ty => exact stepOk_send s (.rawSend ty) ty 0
  | close =>
    rw [step_close]
    split
    · exact (RecvOk.idle s (fun _ => Fin.noConfusion) Fin.noConfusion).toStepOk .close
    · exact stepOk_send s .close tClose 0

/-! ### Whole runs: what the inductions over `step_ok` in `Props/C11` share -/

/-- the event types handed to the server's `send` over a whole run, in order -/
def fwdWord (outs : List Out) : List String := outs.flatMap fun o => o.fwd.map Fwd.ty
def allVals (outs : List Out) : List ServerEv := outs.flatMap Out.vals
def totalRecvs (outs : List Out) : Nat := (outs.map Out.recvs).sum

theorem run_cons (s : State) (op : Op) (ops : List Op) :
    run s (op :: ops) = ((run (step s op).1 ops).1, (step s op).2 :: (run (step s op).1 ops).2) := rfl

theorem run_append (s : State) (ops1 ops2 : List Op) :
    run s (ops1 ++ ops2) =
      ((run (run s ops1).1 ops2).1, (run s ops1).2 ++ (run (run s ops1).1 ops2).2) := by
  induction ops1 generalizing s with
  | nil => rfl
  | cons op ops ih => simp only [List.cons_append, run_cons, ih]

theorem run_frame (s : State) (ops : List Op) :
    (run s ops).1.script = s.script ∧ s.pos ≤ (run s ops).1.pos ∧
    s.client.rank ≤ (run s ops).1.client.rank ∧ s.app.rank ≤ (run s ops).1.app.rank := by
  induction ops generalizing s with
  | nil => exact ⟨rfl, Nat.le_refl _, Nat.le_refl _, Nat.le_refl _⟩
  | cons op ops ih =>
    rw [run_cons]
    have h := step_ok s op
    have := ih (step s op).1
    have h1 := h.vals_len
    dsimp only
    refine ⟨by rw [this.1, h.script], by omega, Nat.le_trans h.client_mono this.2.2.1,
      Nat.le_trans h.app_mono this.2.2.2⟩

theorem quiet_after_disconnect (s : State) (ops : List Op) (h : s.client = .disconnected) :
    totalRecvs (run s ops).2 = 0 ∧ allVals (run s ops).2 = [] := by
  induction ops generalizing s with
  | nil => exact ⟨rfl, rfl⟩
  | cons op ops ih =>
    rw [run_cons]
    have hs := step_ok s op
    have := ih (step s op).1 (stays_disconnected hs.client_mono h)
    have h2 := hs.after_disc h
    simp only [totalRecvs, allVals, List.map_cons, List.sum_cons, List.flatMap_cons] at this ⊢
    rw [h2.1, h2.2, this.1, this.2]
    exact ⟨rfl, rfl⟩

theorem take_split {α : Type} (l : List α) (a b c : Nat) (hab : a ≤ b) (hbc : b ≤ c) :
    (l.drop a).take (c - a) = (l.drop a).take (b - a) ++ (l.drop b).take (c - b) := by
  rw [← Nat.sub_add_sub_cancel hbc hab, Nat.add_comm, List.take_add, List.drop_drop,
    Nat.add_sub_of_le hab]

theorem denyMap_subset (evs : List String) :
    ∀ t ∈ (denyMap evs).1, t ∈ Gen.WebSocket.denialMapping.map Prod.snd := by
  induction evs with
  | nil => exact fun _ h => nomatch h
  | cons e es ih =>
    unfold denyMap
    split
    · exact fun _ h => nomatch h
    · next m hm =>
      intro t ht
      rcases List.mem_cons.mp ht with rfl | ht
      · obtain ⟨l₁, l₂, hl, _⟩ := List.lookup_eq_some_iff.mp hm
        exact List.mem_map.mpr ⟨(e, t), by rw [hl]; exact List.mem_append_right _ List.mem_cons_self, rfl⟩
      · exact ih t ht

end Baize.WebSocket
