/-
C06, WSGI server-sent-event relay: the inductive invariant `WInv` of the repaired protocol.
-/
import BaizeVerif.Model.Stream
import BaizeVerif.Lemmas.Schedule

namespace Baize.Stream

def WReachable (v : Variant) (n : Nat) (fails : Bool) (s : WState) : Prop :=
  ∃ sched : List Tid, wrun v sched (winit n fails) = s

theorem WReachable.step {v : Variant} {n : Nat} {fails : Bool} {s s' : WState} {t : Tid}
    (hr : WReachable v n fails s) (hs : wstep v t s = some s') : WReachable v n fails s' := by
  obtain ⟨sched, rfl⟩ := hr
  unfold wrun at hs
  exact ⟨sched ++ [t], by simp [wrun, wstepD, hs]⟩

theorem canPut_iff (q : Slot) : q.canPut = true ↔ q = .empty := by
  cases q <;> simp [Slot.canPut, Gen.Stream.wsgiQueueMaxsize]

theorem relayStep_eq_none {s : WState} : relayStep s = none ↔
    s.rpc.finished = true ∨ (s.rpc = .put ∨ s.rpc = .putNone) ∧ s.q ≠ .empty := by
  fun_cases relayStep s <;> simp_all [RPc.finished, canPut_iff]

theorem consStep_eq_none {v : Variant} {s : WState} : consStep v s = none ↔
    s.cpc = .done ∨ (s.cpc = .get ∨ s.cpc = .finDrain ∧ s.gotSentinel = false) ∧ s.q = .empty ∨
      s.cpc = .finWait ∧ s.rpc.finished = false := by
  fun_cases consStep v s <;> simp [*]

theorem consRank_le (s : WState) : consRank s ≤ 5 := by
  unfold consRank
  split <;> omega

theorem relayRank_le (s : WState) : relayRank s ≤ 10 := by
  unfold relayRank
  (repeat' split) <;> omega

/-- The inductive invariant of the repaired protocol.  Above each group of clauses: what it records, and the theorem
of `Props/C06.lean` that reads it off. -/
structure WInv (s : WState) : Prop where
  -- where the sentinel is: in the queue or taken once the relay is past `q.put(None)`, neither before (`w_no_deadlock`)
  sentA : s.rpc = .close ∨ s.rpc = .done →
    (s.gotSentinel = true ∧ s.q = .empty) ∨ (s.gotSentinel = false ∧ s.q = .sentinel)
  sentB : ¬ (s.rpc = .close ∨ s.rpc = .done) → s.gotSentinel = false ∧ s.q ≠ .sentinel
  -- the consumer drains and waits only after `cancel()` failed, i.e. for a relay that had started; it waits for the
  -- future only with the sentinel taken (`w_no_deadlock`)
  started : s.cpc = .finDrain ∨ s.cpc = .finWait → s.rpc ≠ .idle ∧ s.rpc ≠ .cancelled
  waitS : s.cpc = .finWait → s.gotSentinel = true
  -- how it ends: a cancelled relay never ran and the call has returned; the call returns only after the relay's
  -- end; the generator was closed iff the relay ran to its end (`w_finished_released`, `w_closed_at_most_once`)
  canc : s.rpc = .cancelled → s.cpc = .done ∧ s.produced = 0
  fin : s.cpc = .done → s.rpc.finished = true
  closed : s.genClosed = if s.rpc = .done then 1 else 0
  -- the program points of `Variant.current` do not occur
  noOld : s.cpc ≠ .oldEmpty ∧ s.cpc ≠ .oldGetNowait
  -- conservation of items: what was produced was taken, is queued or is in the relay's hand; a queued item is the
  -- next to be taken (`w_delivered_prefix`, `w_no_loss_while_open`)
  count : s.taken + (if s.q = .empty ∨ s.q = .sentinel then 0 else 1) + (if s.rpc = .put then 1 else 0)
            = s.produced
  qitem : ∀ i, s.q = .item i → i = s.taken
  -- delivered is 0, 1, 2, …, never ahead of taken, level with it while the stream is open (the same two theorems)
  deliv : List.range s.delivered.length = s.delivered
  delLe : s.delivered.length ≤ s.taken
  delEq : s.cpc.closing = false → s.cpc ≠ .done → s.delivered.length = s.taken
  -- the producer yields at most its `n` items, and none before the relay's first step (`canc` when `cancel()` wins)
  prodLe : s.produced ≤ s.n
  idle0 : s.rpc = .idle → s.produced = 0
  -- past `should_stop = True` the flag is set (`w_closing_step`: the drain that empties the queue then gives
  -- the relay no rank back)
  flag : s.cpc = .finCancel ∨ s.cpc = .finDrain ∨ s.cpc = .finWait → s.stop = true

theorem winv_init (n : Nat) (fails : Bool) : WInv (winit n fails) := by
  constructor <;> simp [winit, CPc.closing]

theorem winv_step {t : Tid} {s s' : WState} (h : WInv s)
    (hs : wstep .fixed t s = some s') : WInv s' := by
  cases h
  revert hs
  fun_cases wstep .fixed t s
  any_goals fun_cases relayStep
  any_goals fun_cases consStep
  all_goals intro hs; cases hs
  -- One goal per edge of a thread's program (the blocked ones went with `cases hs`).  Its context holds the sixteen
  -- clauses before the edge under their field names, then the guards of the edge (`s.cpc = .finCancel`,
  -- `¬s.rpc = .idle`): these tell which edge a goal that fails after a change of the model belongs to, as does its
  -- tag (`mk.case2.case13.refl` counts the branches of `wstep`, then of `consStep`, as written).  The goal is `WInv`
  -- after the edge; `grind` opens it by `WInv.mk` (`constructor` in its place shows the sixteen clauses one by one).
  -- They go together because few are preserved alone: `deliv` at the `get` of an item rests on `qitem` and `delEq`,
  -- `qitem` at the relay's `put` on `count`.
  all_goals grind [WInv.mk, canPut_iff, RPc.finished, CPc.closing, range_snoc_of_eq]

theorem reachable_inv {n : Nat} {fails : Bool} {s : WState}
    (h : WReachable .fixed n fails s) : WInv s := by
  obtain ⟨sched, rfl⟩ := h
  exact foldl_getD_inv winv_step sched (winv_init n fails)

end Baize.Stream
