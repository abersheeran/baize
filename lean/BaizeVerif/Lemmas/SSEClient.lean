/-
What the client must obtain for what was yielded — the specification vocabulary of C19 (`Field.WF`,
`expected`, `delivered`, `KeepAlive`) — and what `parseBody` does obtain from one chunk, whatever follows
it: the block of an event (`parseBody_event`), a keep-alive chunk (`parseBody_keepAlive`), either
(`parseBody_item`).  `parseStream` is `parseBody` on what does not start with a byte order mark, and no
chunk does.
-/
import BaizeVerif.Lemmas.SSE

namespace Baize.SSE

/-- the events the property speaks about: name and id are single-line.  Two
further conditions are forced by the event stream format itself (no encoder
could do without them, see the two `…_witness` theorems of `Props/C19.lean`): an id
contains no NUL (a conforming parser ignores such an `id` field) and `retry` is not
negative (the field value must consist of ASCII digits). -/
def Field.WF : Field → Prop
  | .event v => BreakFree v
  | .id v => BreakFree v ∧ 0 ∉ v
  | .retry n => 0 ≤ n

instance (f : Field) : Decidable f.WF := by cases f <;> unfold Field.WF <;> infer_instance

def Event.WF (e : Event) : Prop := ∀ f ∈ e.fields, f.WF

instance (e : Event) : Decidable e.WF := by unfold Event.WF; infer_instance

def Item.WF : Item → Prop
  | .ping => True
  | .ev e => e.WF

instance (it : Item) : Decidable it.WF := by cases it <;> unfold Item.WF <;> infer_instance

/-- value of the `event` key (a dict has at most one item per key; in a list the last wins) -/
def lastName : List Field → Option (List Nat)
  | [] => none
  | f :: fs => (lastName fs).or (match f with | .event v => some v | _ => none)

def lastId : List Field → Option (List Nat)
  | [] => none
  | f :: fs => (lastId fs).or (match f with | .id v => some v | _ => none)

def lastRetry : List Field → Option Nat
  | [] => none
  | f :: fs => (lastRetry fs).or (match f with | .retry n => some n.toNat | _ => none)

/-- the data the client must see: the lines of the text — as `splitLines_spec`
shows, the lines ended by CR, LF or CRLF and by nothing else — joined by LF -/
def normData (d : List Nat) : List Nat := joinWith [10] (splitLines d)

/-- the record the client must obtain for a yielded dictionary -/
def expected (e : Event) : Parsed :=
  ⟨lastName e.fields, lastId e.fields, lastRetry e.fields, normData (e.data.getD [])⟩

/-- a dictionary that says nothing: no item besides `data`, and no or empty `data`.
It has no representation in the event stream format (its block is a lone blank
line) and delivers nothing. -/
def Event.vacuous (e : Event) : Bool := e.fields.isEmpty && (e.data.getD []).isEmpty

def delivered : Item → Option Parsed
  | .ping => none
  | .ev e => if e.vacuous then none else some (expected e)

/-- the LF-terminated lines of a text, and what follows the last LF.  `KeepAlive` is stated with it, not with the
client's `wireLines`: baize's ping has no CR, so the simpler splitter says what a keep-alive chunk is (a ping that
gained a CR would fail `KeepAlive`, not the client). -/
def lfLines : List Nat → List (List Nat) × List Nat
  | [] => ([], [])
  | c :: cs =>
    if c = 10 then ([] :: (lfLines cs).1, (lfLines cs).2)
    else match (lfLines cs).1 with
      | [] => ([], c :: (lfLines cs).2)
      | l :: ls => ((c :: l) :: ls, (lfLines cs).2)

/-- a keep-alive chunk: complete LF-terminated lines without CR, each a comment
(first character `:`) or blank, and not starting with a byte order mark -/
def KeepAlive (p : List Nat) : Prop :=
  (lfLines p).2 = [] ∧ 13 ∉ p ∧ p.head? ≠ some 65279 ∧
    ∀ l ∈ (lfLines p).1, l = [] ∨ l.head? = some 58

instance (p : List Nat) : Decidable (KeepAlive p) := by unfold KeepAlive; infer_instance

/-! ### The generated constants

The proofs below are written for these values; a changed `Gen/SSE.lean` surfaces here. -/

theorem fieldSep_eq : Gen.SSE.fieldSep = [58, 32] := rfl
theorem dataPrefix_eq : Gen.SSE.dataPrefix = keyData ++ [58, 32] := rfl
theorem joiner_eq : Gen.SSE.joiner = [10] := rfl
theorem terminator_eq : Gen.SSE.terminator = [[], []] := rfl

theorem processLine_keyed {k : List Nat} (hk : 58 ∉ k) (hne : k ≠ []) (st : PState) (v : List Nat) :
    processLine st (k ++ Gen.SSE.fieldSep ++ v) = (processField st k v, none) := by
  have hs : splitField (k ++ Gen.SSE.fieldSep ++ v) = (k, v) := by
    simp [fieldSep_eq, splitField, colonSplit_append hk]
  cases k with
  | nil => exact absurd rfl hne
  | cons c cs =>
    have hc : c ≠ 58 := fun h => hk (h ▸ List.mem_cons_self)
    rw [processLine, hs]
    simp [hc]

/-- effect of one (well-formed) dictionary item on the client's buffers -/
def PState.upd (st : PState) : Field → PState
  | .event v => { st with event := some v }
  | .id v => { st with id := some v }
  | .retry n => { st with retry := some n.toNat }

theorem processLine_field (st : PState) (f : Field) (hf : f.WF) :
    processLine st (fieldLine f) = (st.upd f, none) := by
  cases f with
  | event v =>
    rw [fieldLine, processLine_keyed (by decide) (by decide)]
    simp [processField, PState.upd]
  | id v =>
    rw [fieldLine, processLine_keyed (by decide) (by decide)]
    simp [processField, PState.upd, hf.2, keyId, keyEvent, keyData]
  | retry n =>
    obtain ⟨m, rfl⟩ := Int.eq_ofNat_of_zero_le hf
    obtain ⟨hne, hall, hval⟩ := natDigits_spec m
    rw [fieldLine, processLine_keyed (by decide) (by decide)]
    simp [processField, PState.upd, intText, hne, hall, hval, keyRetry, keyId, keyEvent, keyData]

theorem processLine_data (st : PState) (l : List Nat) :
    processLine st (Gen.SSE.dataPrefix ++ l) = ({ st with data := st.data ++ l ++ [10] }, none) := by
  rw [dataPrefix_eq, ← fieldSep_eq, processLine_keyed (by decide) (by decide)]
  simp [processField, keyEvent, keyData]

theorem interp_fields (st : PState) (fs : List Field) (h : ∀ f ∈ fs, f.WF) (rest : List (List Nat)) :
    interp st (fs.map fieldLine ++ rest)
      = interp ⟨(lastName fs).or st.event, (lastId fs).or st.id, (lastRetry fs).or st.retry, st.data⟩ rest := by
  induction fs generalizing st with
  | nil => simp [lastName, lastId, lastRetry]
  | cons f fs ih =>
    simp only [List.map_cons, List.cons_append, interp, processLine_field st f (h f List.mem_cons_self)]
    rw [ih _ fun x hx => h x (List.mem_cons_of_mem _ hx)]
    cases f <;> simp [PState.upd, lastName, lastId, lastRetry]

theorem interp_datas (st : PState) (ls : List (List Nat)) (rest : List (List Nat)) :
    interp st (ls.map (Gen.SSE.dataPrefix ++ ·) ++ rest)
      = interp { st with data := st.data ++ ls.flatMap (· ++ [10]) } rest := by
  induction ls generalizing st with
  | nil => simp
  | cons l ls ih =>
    simp only [List.map_cons, List.cons_append, interp, processLine_data]
    rw [ih]
    simp

theorem interp_blank (st : PState) (rest : List (List Nat)) :
    interp st ([] :: rest) = st.dispatch.toList ++ interp PState.init rest := by
  simp [interp, processLine]

theorem last_isNone (fs : List Field) :
    ((lastName fs).isNone && (lastId fs).isNone && (lastRetry fs).isNone) = fs.isEmpty := by
  cases fs with
  | nil => rfl
  | cons f fs => cases f <;> simp [lastName, lastId, lastRetry]

theorem dispatch_block (e : Event) :
    PState.dispatch ⟨lastName e.fields, lastId e.fields, lastRetry e.fields,
      (splitLines (e.data.getD [])).flatMap (· ++ [10])⟩ = delivered (.ev e) := by
  have hd : ((splitLines (e.data.getD [])).flatMap (· ++ [10])).isEmpty = (e.data.getD []).isEmpty := by
    rw [Bool.eq_iff_iff, List.isEmpty_iff, List.isEmpty_iff, ← splitLines_eq_nil (d := e.data.getD [])]
    cases splitLines (e.data.getD []) <;> simp
  -- the client's test "no buffer was set" is `e.vacuous`, so both sides are the same `if`
  simp [PState.dispatch, last_isNone, hd, stripLF_lines, delivered, Event.vacuous, expected, normData]

/-- the lines of the block of `e`, before the blank line -/
def blockLines (e : Event) : List (List Nat) :=
  e.fields.map fieldLine ++ (splitLines (e.data.getD [])).map (Gen.SSE.dataPrefix ++ ·)

theorem encodeEvent_eq (e : Event) :
    encodeEvent e = (blockLines e).flatMap (· ++ [10]) ++ [10] := by
  have hd : dataLines e = (splitLines (e.data.getD [])).map (Gen.SSE.dataPrefix ++ ·) := by
    unfold dataLines
    cases e.data <;> rfl
  rw [encodeEvent, joiner_eq, terminator_eq, hd]
  show joinWith [10] (blockLines e ++ ([[]] ++ [[]])) = _
  rw [← List.append_assoc, joinWith_concat]
  simp

theorem blockLines_breakFree {e : Event} (h : e.WF) : ∀ l ∈ blockLines e, BreakFree l := by
  intro l hl
  rcases List.mem_append.mp hl with hl | hl
  · obtain ⟨f, hf, rfl⟩ := List.mem_map.mp hl
    have hf := h f hf
    cases f with
    | event v => exact breakFree_append.mpr ⟨by decide, hf⟩
    | id v => exact breakFree_append.mpr ⟨by decide, hf.1⟩
    | retry n => exact breakFree_append.mpr ⟨by decide, intText_breakFree n⟩
  · obtain ⟨x, hx, rfl⟩ := List.mem_map.mp hl
    exact breakFree_append.mpr ⟨by decide, splitLines_breakFree _ x hx⟩

theorem parseBody_event (e : Event) (h : e.WF) (s : List Nat) :
    parseBody (encodeEvent e ++ s) = (delivered (.ev e)).toList ++ parseBody s := by
  have hw : wireLines [] false (encodeEvent e ++ s) = blockLines e ++ [] :: wireLines [] false s := by
    rw [encodeEvent_eq, List.append_assoc, wireLines_lines _ (blockLines_breakFree h)]
    simp [wireLines]
  rw [parseBody, hw, blockLines, List.append_assoc, interp_fields _ _ h, interp_datas, interp_blank]
  simp [PState.init, dispatch_block, parseBody]

theorem KeepAlive.noBOM {p : List Nat} (h : KeepAlive p) : p.head? ≠ some 65279 := h.2.2.1

theorem lfLines_eq (p : List Nat) : (lfLines p).1.flatMap (· ++ [10]) ++ (lfLines p).2 = p := by
  fun_induction lfLines p <;> simp_all

theorem lfLines_breakFree {p : List Nat} (h : 13 ∉ p) : ∀ l ∈ (lfLines p).1, BreakFree l := by
  fun_induction lfLines p with
  | case1 => simp
  | case2 cs ih => simpa using ih (List.not_mem_of_not_mem_cons h)
  | case3 c cs h10 hl ih => simp
  | case4 c cs h10 l ls hl ih =>
    rw [hl] at ih
    simpa [h10, (List.ne_of_not_mem_cons h).symm] using ih (List.not_mem_of_not_mem_cons h)

theorem interp_ignored (ls rest : List (List Nat)) (h : ∀ l ∈ ls, l = [] ∨ l.head? = some 58) :
    interp PState.init (ls ++ rest) = interp PState.init rest := by
  induction ls with
  | nil => rfl
  | cons l ls ih =>
    have hl : processLine PState.init l = (PState.init, none) := by
      rcases h l List.mem_cons_self with rfl | hl
      · rfl
      · cases l with
        | nil => cases hl
        | cons c cs => simp [processLine, hl]
    rw [List.cons_append, interp, hl]
    exact ih fun x hx => h x (List.mem_cons_of_mem _ hx)

theorem parseBody_keepAlive {p : List Nat} (h : KeepAlive p) (s : List Nat) :
    parseBody (p ++ s) = parseBody s := by
  obtain ⟨hrem, hcr, _, hlines⟩ := h
  have hp := lfLines_eq p
  rw [hrem, List.append_nil] at hp
  unfold parseBody
  rw [← hp, wireLines_lines _ (lfLines_breakFree hcr), interp_ignored _ _ hlines]

theorem pingChunk_keepAlive (i : Iface) : KeepAlive (pingChunk i) := by cases i <;> decide

theorem parseBody_item (i : Iface) (it : Item) (h : it.WF) (s : List Nat) :
    parseBody (chunkOf i it ++ s) = (delivered it).toList ++ parseBody s := by
  cases it with
  | ping => simpa [chunkOf, delivered] using parseBody_keepAlive (pingChunk_keepAlive i) s
  | ev e => exact parseBody_event e h s

theorem parseStream_noBOM {s : List Nat} (h : s.head? ≠ some 65279) : parseStream s = parseBody s := by
  unfold parseStream dropBOM
  split
  · exact absurd rfl h
  · rfl

theorem noBOM_append {a b : List Nat} (ha : a.head? ≠ some 65279) (hb : b.head? ≠ some 65279) :
    (a ++ b).head? ≠ some 65279 := by
  cases a with
  | nil => simpa using hb
  | cons c cs => simpa using ha

theorem encodeEvent_noBOM (e : Event) : (encodeEvent e).head? ≠ some 65279 := by
  obtain ⟨c, r, h, hc⟩ : ∃ c r, encodeEvent e = c :: r ∧ c ≠ 65279 := by
    rw [encodeEvent_eq, blockLines]
    cases e.fields with
    | cons f fs => cases f <;> exact ⟨_, _, rfl, by decide⟩
    | nil => cases splitLines (e.data.getD []) <;> exact ⟨_, _, rfl, by decide⟩
  simp [h, hc]

theorem wire_noBOM (i : Iface) (items : List Item) : (wire i items).head? ≠ some 65279 := by
  induction items with
  | nil => simp [wire]
  | cons it items ih =>
    simp only [wire, List.flatMap_cons] at ih ⊢
    refine noBOM_append ?_ ih
    cases it with
    | ping => exact (pingChunk_keepAlive i).noBOM
    | ev e => exact encodeEvent_noBOM e

end Baize.SSE
