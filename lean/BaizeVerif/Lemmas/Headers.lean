/-
For C13: every mutator and `Headers.__init__` keep the invariant `Clean`; where the characters of a Set-Cookie line
come from; the bytes of the percent-encoding; `emit` read backwards (`emit_sent`).
-/
import BaizeVerif.Model.Headers
import BaizeVerif.Lemmas.Cookie
import BaizeVerif.Lemmas.Date

namespace Baize.Headers

open Cookie (Str dictSet dictGet)

/-- free of CR, LF and NUL -/
def NoCtl (s : Str) : Prop := ∀ c ∈ s, c ≠ 13 ∧ c ≠ 10 ∧ c ≠ 0

def HasCtl (s : Str) : Prop := ∃ c ∈ s, c = 13 ∨ c = 10 ∨ c = 0

def Clean (st : Hdrs) : Prop := ∀ kv ∈ st, NoCtl kv.1 ∧ NoCtl kv.2

theorem ctl_in_sets : (13 ∈ Gen.Headers.keyControl ∧ 10 ∈ Gen.Headers.keyControl ∧ 0 ∈ Gen.Headers.keyControl) ∧
    (13 ∈ Gen.Headers.valueControl ∧ 10 ∈ Gen.Headers.valueControl ∧ 0 ∈ Gen.Headers.valueControl) := by
  decide

theorem noCtl_nil : NoCtl [] := List.forall_mem_nil _

theorem noCtl_append {a b : Str} (ha : NoCtl a) (hb : NoCtl b) : NoCtl (a ++ b) :=
  List.forall_mem_append.mpr ⟨ha, hb⟩

theorem noCtl_cons {x : Nat} {a : Str} (hx : x ≠ 13 ∧ x ≠ 10 ∧ x ≠ 0) (ha : NoCtl a) : NoCtl (x :: a) :=
  List.forall_mem_cons.mpr ⟨hx, ha⟩

theorem noCtl_of_hasCtl_false {ctl : List Nat} (hctl : 13 ∈ ctl ∧ 10 ∈ ctl ∧ 0 ∈ ctl) {s : Str}
    (h : hasCtl ctl s = false) : NoCtl s := by
  intro c hc
  have : c ∉ ctl := by
    simp only [hasCtl, List.any_eq_false, List.contains_iff_mem] at h
    exact h c hc
  exact ⟨fun e => this (e ▸ hctl.1), fun e => this (e ▸ hctl.2.1), fun e => this (e ▸ hctl.2.2)⟩

theorem hasCtl_false_of_noCtl {ctl : List Nat} (hctl : ∀ c ∈ ctl, c = 13 ∨ c = 10 ∨ c = 0) {s : Str}
    (h : NoCtl s) : hasCtl ctl s = false := by
  simp only [hasCtl, List.any_eq_false, List.contains_iff_mem]
  intro c hc hm
  have := h c hc
  have := hctl c hm
  omega

theorem lowerCp_ctl (c : Nat) : (lowerCp c = 13 ∨ lowerCp c = 10 ∨ lowerCp c = 0) ↔ (c = 13 ∨ c = 10 ∨ c = 0) := by
  unfold lowerCp
  split <;> omega

theorem noCtl_lower {k : Str} (h : NoCtl k) : NoCtl (lower k) := by
  intro c hc
  obtain ⟨x, hx, rfl⟩ := List.mem_map.mp hc
  have := h x hx
  have := lowerCp_ctl x
  omega

theorem HasCtl_lower {k : Str} (h : HasCtl k) : HasCtl (lower k) := by
  obtain ⟨c, hc, hcc⟩ := h
  exact ⟨lowerCp c, List.mem_map_of_mem hc, (lowerCp_ctl c).mpr hcc⟩

theorem not_noCtl_of_HasCtl {s : Str} (h : HasCtl s) (hn : NoCtl s) : False := by
  obtain ⟨c, hc, hcc⟩ := h
  have := hn c hc
  omega

theorem hasCtl_of_HasCtl {ctl : List Nat} (hctl : 13 ∈ ctl ∧ 10 ∈ ctl ∧ 0 ∈ ctl) {s : Str}
    (h : HasCtl s) : hasCtl ctl s = true :=
  Bool.of_not_eq_false fun hf => not_noCtl_of_HasCtl h (noCtl_of_hasCtl_false hctl hf)

theorem clean_dictSet {st : Hdrs} {k v : Str} (hst : Clean st) (hk : NoCtl k) (hv : NoCtl v) :
    Clean (dictSet st k v) := by
  intro kv hkv
  rcases Cookie.mem_dictSet hkv with h | h
  · exact hst kv h
  · rw [h]; exact ⟨hk, hv⟩

theorem clean_erase {st : Hdrs} (k : Str) (hst : Clean st) : Clean (erase st k) := by
  intro kv hkv
  exact hst kv (List.mem_filter.mp hkv).1

theorem clean_nil : Clean [] := List.forall_mem_nil _

theorem dirty_of_clean {st : Hdrs} (h : Clean st) : dirty st = false := by
  -- `dirty` tests for the three characters of the property, whatever the generated control sets are
  have key : ∀ s, NoCtl s → hasCtl [13, 10, 0] s = false := fun s => hasCtl_false_of_noCtl (by simp)
  simp only [dirty, List.any_eq_false, Bool.or_eq_true, not_or, Bool.not_eq_true]
  exact fun kv hkv => ⟨key _ (h kv hkv).1, key _ (h kv hkv).2⟩

theorem setItem_ok {st st' : Hdrs} {k v : Str} (h : setItem st k v = .ok st') :
    NoCtl k ∧ NoCtl v ∧ st' = dictSet st (lower k) v := by
  unfold setItem at h
  split at h
  · cases h
  · split at h
    · cases h
    · rename_i hk hv
      simp only [Except.ok.injEq] at h
      exact ⟨noCtl_of_hasCtl_false ctl_in_sets.1 (by simpa using hk),
        noCtl_of_hasCtl_false ctl_in_sets.2 (by simpa using hv), h.symm⟩

theorem setItem_err {st : Hdrs} {k v : Str} {e : Err} (h : setItem st k v = .error e) :
    e = .valueError := by
  unfold setItem at h
  split at h
  · simp only [Except.error.injEq] at h; exact h.symm
  · split at h
    · simp only [Except.error.injEq] at h; exact h.symm
    · cases h

theorem setItem_hasCtl (st : Hdrs) {k v : Str} (h : HasCtl k ∨ HasCtl v) :
    setItem st k v = .error .valueError := by
  unfold setItem
  by_cases hk : hasCtl Gen.Headers.keyControl k = true
  · simp [hk]
  · rcases h with h | h
    · exact absurd (hasCtl_of_HasCtl ctl_in_sets.1 h) hk
    · simp [hk, hasCtl_of_HasCtl ctl_in_sets.2 h]

theorem setItem_clean {st st' : Hdrs} {k v : Str} (hst : Clean st) (h : setItem st k v = .ok st') :
    Clean st' := by
  obtain ⟨hk, hv, rfl⟩ := setItem_ok h
  exact clean_dictSet hst (noCtl_lower hk) hv

theorem delItem_clean {st st' : Hdrs} {k : Str} (hst : Clean st) (h : delItem st k = .ok st') :
    Clean st' := by
  unfold delItem at h
  split at h
  · simp only [Except.ok.injEq] at h; subst h; exact clean_erase _ hst
  · cases h

theorem update_clean (kvs : List (Str × Str)) : ∀ st : Hdrs, Clean st → Clean (update st kvs).1 := by
  induction kvs with
  | nil => intro st h; exact h
  | cons kv rest ih =>
    intro st hst
    obtain ⟨k, v⟩ := kv
    unfold update
    cases hs : setItem st k v with
    | ok st' => exact ih st' (setItem_clean hst hs)
    | error e => exact hst

theorem popitem_clean {st : Hdrs} (hst : Clean st) : Clean (popitem st).1 := by
  unfold popitem
  split
  · exact hst
  · split
    · exact hst
    · split
      · rename_i hd; exact delItem_clean hst hd
      · exact hst

theorem clearFuel_clean (n : Nat) : ∀ st : Hdrs, Clean st → Clean (clearFuel n st) := by
  induction n with
  | zero => intro st h; exact h
  | succ n ih =>
    intro st hst
    unfold clearFuel
    split
    · rename_i st' _ _ hp
      have := popitem_clean hst
      rw [hp] at this
      exact ih st' this
    · exact hst

/-- the function `initHeaders` folds: what `Headers.__init__` does with one pair -/
def initStep (st : Hdrs) (kv : Str × Str) : Hdrs :=
  match dictGet st (lower kv.1) with
  | some old => dictSet st (lower kv.1) (old ++ Gen.Headers.initJoiner ++ kv.2)
  | none => dictSet st (lower kv.1) kv.2

theorem initHeaders_eq_foldl (items : List (Str × Str)) : initHeaders items = items.foldl initStep [] := rfl

theorem initHeaders_ind {P : Hdrs → Prop} {items : List (Str × Str)} (h0 : P [])
    (hstep : ∀ st kv, kv ∈ items → P st → P (initStep st kv)) : P (initHeaders items) := by
  rw [initHeaders_eq_foldl]
  generalize ([] : Hdrs) = st at h0
  induction items generalizing st with
  | nil => exact h0
  | cons kv rest ih =>
    exact ih (fun st x hx => hstep st x (List.mem_cons_of_mem _ hx)) _ (hstep st kv List.mem_cons_self h0)

theorem fixed_noCtl : NoCtl Gen.Headers.initJoiner ∧ NoCtl Gen.Headers.setCookieName ∧
    NoCtl Gen.Cookie.defaultPath ∧ NoCtl (Cookie.strCps Gen.Cookie.defaultSamesite) := by
  unfold NoCtl
  decide +kernel

theorem initHeaders_clean (items : List (Str × Str)) (h : ∀ kv ∈ items, NoCtl kv.1 ∧ NoCtl kv.2) :
    Clean (initHeaders items) := by
  refine initHeaders_ind clean_nil fun st kv hkv hst => ?_
  obtain ⟨hk, hv⟩ := h kv hkv
  unfold initStep
  cases hg : dictGet st (lower kv.1) with
  | some old =>
    exact clean_dictSet hst (noCtl_lower hk)
      (noCtl_append (noCtl_append (hst _ (Cookie.dictGet_mem hg)).2 fixed_noCtl.1) hv)
  | none => exact clean_dictSet hst (noCtl_lower hk) hv

/-! `initHeaders_distinct` and `initHeaders_filter` are for the equivalence of the two gateways (`Lemmas/Equiv`, C04),
not for C13: `Headers(...)` of distinct lower-case names joins nothing, and dropping names (there: `connection`) may
be done before or after it; a test on the lowered name is case-blind by `lower_idem`. -/

theorem lowerCp_idem (c : Nat) : lowerCp (lowerCp c) = lowerCp c := by
  unfold lowerCp
  split
  · split <;> omega
  · rfl

theorem lower_idem (n : Str) : lower (lower n) = lower n := by
  simp [lower, List.map_map, Function.comp_def, lowerCp_idem]

theorem initHeaders_distinct (l : List (Str × Str)) (hlow : ∀ kv ∈ l, lower kv.1 = kv.1)
    (hnd : (l.map (·.1)).Nodup) : initHeaders l = l := by
  suffices h : ∀ st : List (Str × Str), ((st ++ l).map (·.1)).Nodup → l.foldl initStep st = st ++ l from
    h [] (by simpa using hnd)
  clear hnd
  induction l with
  | nil => simp
  | cons x xs ih =>
    intro st hnd
    obtain ⟨k, v⟩ := x
    have habs : ∀ kv ∈ st, kv.1 ≠ k := by
      intro kv hkv hh
      simp only [List.map_append, List.map_cons, List.nodup_append, List.nodup_cons] at hnd
      exact hnd.2.2 kv.1 (List.mem_map_of_mem hkv) k (by simp) hh
    have hstep : initStep st (k, v) = st ++ [(k, v)] := by
      simp only [initStep, hlow (k, v) (by simp), Cookie.dictGet_absent habs, Cookie.dictSet_absent v habs]
    rw [List.foldl_cons, hstep, ih (fun kv hkv => hlow kv (by simp [hkv])) (st ++ [(k, v)]) (by simpa using hnd)]
    simp

theorem filter_initStep {q : Str → Bool} (hq : ∀ k, q (lower k) = q k) (st : List (Str × Str)) (kv : Str × Str) :
    (initStep st kv).filter (fun kv => q kv.1) =
      if q kv.1 then initStep (st.filter fun kv => q kv.1) kv else st.filter fun kv => q kv.1 := by
  unfold initStep
  by_cases h : q kv.1 = true
  · have h' : q (lower kv.1) = true := by rwa [hq]
    rw [if_pos h, Cookie.dictGet_filter q st h']
    cases dictGet st (lower kv.1) <;> simp [Cookie.filter_dictSet q, h']
  · have h' : ¬ q (lower kv.1) = true := by rwa [hq]
    rw [if_neg h]
    cases dictGet st (lower kv.1) <;> simp [Cookie.filter_dictSet q, h']

theorem initHeaders_filter {q : Str → Bool} (hq : ∀ k, q (lower k) = q k) (l : List (Str × Str)) :
    (initHeaders l).filter (fun kv => q kv.1) = initHeaders (l.filter fun kv => q kv.1) := by
  suffices h : ∀ st, (l.foldl initStep st).filter (fun kv => q kv.1) =
      (l.filter fun kv => q kv.1).foldl initStep (st.filter fun kv => q kv.1) from h []
  induction l with
  | nil => intro st; rfl
  | cons x xs ih =>
    intro st
    rw [List.foldl_cons, ih, filter_initStep hq, List.filter_cons]
    split <;> rfl

/-- printable ASCII other than `;` -/
abbrev Plain (c : Nat) : Prop := 32 ≤ c ∧ c < 127 ∧ c ≠ 59

theorem names_plain : (∀ n ∈ Cookie.weekdayNames, ∀ c ∈ n, Plain c) ∧ (∀ n ∈ Cookie.monthNames, ∀ c ∈ n, Plain c) := by
  decide +kernel

theorem getD_plain {l : List Str} (h : ∀ n ∈ l, ∀ c ∈ n, Plain c) (i : Nat) : ∀ c ∈ l.getD i [], Plain c := by
  rw [List.getD_eq_getElem?_getD]
  cases hi : l[i]? with
  | none => simp
  | some n => exact h n (List.mem_of_getElem? hi)

theorem dec2_plain (n : Nat) : ∀ c ∈ Cookie.dec2 n, Plain c := by
  intro c hc
  simp only [Cookie.dec2, List.mem_cons, List.mem_nil_iff, or_false] at hc
  unfold Plain
  rcases hc with h | h <;> omega

theorem decimal_plain (n : Nat) : ∀ c ∈ Cookie.decimal n, Plain c := by
  intro c hc
  have := Cookie.decimal_digits n c hc
  simp only [Cookie.isDigit, Bool.and_eq_true, decide_eq_true_eq] at this
  unfold Plain; omega

theorem intRepr_plain (i : Int) : ∀ c ∈ Cookie.intRepr i, Plain c := by
  intro c hc
  unfold Cookie.intRepr at hc
  split at hc
  · rcases List.mem_cons.mp hc with h | h
    · unfold Plain; omega
    · exact decimal_plain _ c h
  · exact decimal_plain _ c hc

theorem httpDate_plain (t : Int) : ∀ c ∈ Cookie.httpDate t, Plain c := by
  simp only [Cookie.httpDate, List.forall_mem_append, and_assoc]
  exact ⟨getD_plain names_plain.1 _, by decide, dec2_plain _, by decide, getD_plain names_plain.2 _, by decide,
    decimal_plain _, by decide, dec2_plain _, by decide, dec2_plain _, by decide, dec2_plain _, by decide⟩

/-- not CR, LF, NUL, `;` or `,` -/
abbrev PairSafe (c : Nat) : Prop := c ≠ 13 ∧ c ≠ 10 ∧ c ≠ 0 ∧ c ≠ 59 ∧ c ≠ 44

theorem quote_pairSafe (v : Str) : ∀ d ∈ Cookie.quote v, PairSafe d := by
  intro d hd
  unfold PairSafe
  rcases Cookie.quote_chars v d hd with h | h <;> omega

theorem literals_plain :
    (∀ x ∈ Gen.Cookie.pairSep, Plain x) ∧ (∀ x ∈ Gen.Cookie.expiresPrefix, Plain x) ∧
    (∀ x ∈ Gen.Cookie.maxAgePrefix, Plain x) ∧ (∀ x ∈ Gen.Cookie.domainPrefix, Plain x) ∧
    (∀ x ∈ Gen.Cookie.pathPrefix, Plain x) ∧ (∀ x ∈ Gen.Cookie.httponlyText, Plain x) ∧
    (∀ x ∈ Gen.Cookie.secureText, Plain x) ∧ (∀ x ∈ Gen.Cookie.samesitePrefix, Plain x) := by decide +kernel

theorem attr_chars (c : Cookie.CookieRec) : ∀ a ∈ Cookie.attrs c, ∀ x ∈ a,
    Plain x ∨ x ∈ c.domain ∨ x ∈ c.path ∨ x ∈ c.samesite := by
  obtain ⟨-, le, lm, ld, lp, lh, ls, lss⟩ := literals_plain
  intro a ha x hx
  have pre : ∀ {l s : Str}, (∀ y ∈ l, Plain y) → a = l ++ s → Plain x ∨ x ∈ s := by
    intro l s hl e
    rw [e] at hx
    exact (List.mem_append.mp hx).imp_left (hl x)
  simp only [Cookie.attrs, List.mem_append, List.mem_ite_nil_left, List.mem_ite_nil_right,
    List.mem_singleton] at ha
  rcases ha with (((((h | h) | h) | h) | h) | h) | h
  · split at h
    · exact (pre le (List.mem_singleton.mp h)).elim Or.inl fun h => Or.inl (httpDate_plain _ x h)
    · cases h
  · exact (pre lm h.2).elim Or.inl fun h => Or.inl (intRepr_plain _ x h)
  · exact (pre ld h.2).imp_right Or.inl
  · exact (pre lp h.2).imp_right (Or.inr ∘ Or.inl)
  · exact Or.inl (lh x (h.2 ▸ hx))
  · exact Or.inl (ls x (h.2 ▸ hx))
  · exact (pre lss h).imp_right (Or.inr ∘ Or.inr)

theorem line_chars (c : Cookie.CookieRec) : ∀ x ∈ Cookie.line c,
    x = 59 ∨ Plain x ∨ x ∈ Cookie.quote c.name ∨ x ∈ Cookie.quote c.value ∨
      x ∈ c.domain ∨ x ∈ c.path ∨ x ∈ c.samesite := by
  intro x hx
  simp only [Cookie.line, Cookie.joinWith_eq, List.mem_append, List.mem_flatMap] at hx
  rcases hx with h | ⟨a, ha, h | hxa⟩
  · simp only [Cookie.pair, List.mem_append] at h
    rcases h with (h | h) | h
    · exact Or.inr (Or.inr (Or.inl h))
    · exact Or.inr (Or.inl (literals_plain.1 x h))
    · exact Or.inr (Or.inr (Or.inr (Or.inl h)))
  · have : x = 59 ∨ x = 32 := by simpa [Cookie.joiner_eq] using h
    unfold Plain
    omega
  · exact Or.inr ((attr_chars c a ha x hxa).imp_right fun h => Or.inr (Or.inr h))

theorem safe_printable : (∀ b ∈ Gen.Headers.urlAlwaysSafe, 0x21 ≤ b ∧ b < 0x7f) ∧
    (∀ b ∈ Gen.Headers.iriSafe, 0x21 ≤ b ∧ b < 0x7f) := by decide +kernel

theorem hexDigit_printable {n : Nat} (h : n < 16) : 0x21 ≤ hexDigit n ∧ hexDigit n < 0x7f := by
  unfold hexDigit
  split <;> omega

theorem pctEncode_printable {b : Nat} (hb : b < 256) : ∀ c ∈ pctEncode b, 0x21 ≤ c ∧ c < 0x7f := by
  intro c hc
  unfold pctEncode at hc
  split at hc
  · rename_i hs
    rw [List.mem_singleton.mp hc]
    simp only [isSafeByte, Bool.or_eq_true, Bool.and_eq_true, List.contains_iff_mem] at hs
    rcases hs with hs | ⟨_, hs⟩
    · exact safe_printable.1 b hs
    · exact safe_printable.2 b hs
  · simp only [List.mem_cons, List.mem_nil_iff, or_false] at hc
    rcases hc with rfl | rfl | rfl
    · omega
    · exact hexDigit_printable (by omega)
    · exact hexDigit_printable (by omega)

theorem utf8_bytes {c : Nat} {bs : List Nat} (h : utf8 c = some bs) : ∀ b ∈ bs, b < 256 := by
  intro b hb
  unfold utf8 at h
  split at h
  · cases h; simp at hb; omega
  · split at h
    · cases h; simp at hb; omega
    · split at h
      · cases h
      · split at h
        · cases h; simp at hb; omega
        · split at h
          · cases h; simp at hb; omega
          · cases h

theorem utf8Encode_bytes : ∀ (s : Str) (bs : List Nat), utf8Encode s = some bs → ∀ b ∈ bs, b < 256 := by
  intro s
  induction s with
  | nil => intro bs h b hb; cases h; cases hb
  | cons c cs ih =>
    intro bs h b hb
    unfold utf8Encode at h
    split at h
    · rename_i b1 b2 h1 h2
      cases h
      rcases List.mem_append.mp hb with hh | hh
      · exact utf8_bytes h1 b hh
      · exact ih b2 h2 b hh
    · cases h

/-- `emit` read backwards: a sent header list is `listHeaders` of the mapping built by the constructor (for a
redirect with the escaped target stored through `setItem`), run through the operations, with `content-length` stored
through `setItem` -/
theorem emit_sent {r : Option Str} {init cookies : List (Str × Str)} {ops : List Op} {trace : List (Out × Bool)}
    {hs : List (Str × Str)} (h : emit r init ops cookies = .sent trace hs) : ∃ st1 st2,
    (r = none ∧ st1 = initHeaders init ∨ ∃ url u, r = some url ∧ iriToUri url = some u ∧
      setItem (initHeaders init) Gen.Headers.redirectHeader_wsgi u = .ok st1) ∧
    trace = (runOps st1 ops).2 ∧
    setItem (runOps st1 ops).1 Gen.Headers.emptyBodyHeader_wsgi Gen.Headers.emptyBodyValue_wsgi = .ok st2 ∧
    hs = listHeaders st2 (cookies.map defaultCookie) := by
  unfold emit at h
  simp only at h
  split at h
  · cases h
  · rename_i st1 hb
    split at h
    · cases h
    · rename_i st2 hs2
      cases h
      refine ⟨st1, st2, ?_, rfl, hs2, rfl⟩
      cases r with
      | none => cases hb; exact .inl ⟨rfl, rfl⟩
      | some url =>
        simp only at hb
        split at hb
        · cases hb
        · rename_i u hu
          split at hb
          · rename_i hs1; cases hb; exact .inr ⟨url, u, rfl, hu, hs1⟩
          · cases hb

end Baize.Headers
