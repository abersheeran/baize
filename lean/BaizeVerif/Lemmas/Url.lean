/-
Lemmas for C18 that speak of the model of `Model/Url.lean` alone: what the `str` primitives,
`urlsplit`/`unsplit`, the netloc accessors, `replace`'s netloc surgery, the UTF-8 codec and the
quoting functions do on text put together from parts that are free of the delimiters of their place.
The definitions here (`clean`, `validScheme`, `Host`, `WFhost`, `hostPort`, …) are the part of the
vocabulary of Props/C18.lean that these lemmas need.

The codec sections (from "UTF-8" on) have a twin in `Lemmas/MultiMap.lean`, under the same headings;
why, and how the two differ, is said at the head of that file.
-/
import BaizeVerif.Model.Url
import BaizeVerif.Lemmas.Utf8Seq
import BaizeVerif.Lemmas.Text

namespace Baize.Url

/-! ### partition / rpartition -/

theorem partition_prefix {c : Nat} {a : Str} (s : Str) (h : c ∉ a) :
    partition c (a ++ s) = (a ++ (partition c s).1, (partition c s).2.1, (partition c s).2.2) := by
  induction a with
  | nil => simp
  | cons x xs ih =>
    have hx : x ≠ c := fun e => h (by simp [e])
    have hxs : c ∉ xs := fun m => h (by simp [m])
    simp [partition, hx, ih hxs]

theorem partition_not_mem {c : Nat} {s : Str} (h : c ∉ s) : partition c s = (s, false, []) := by
  simpa [partition] using partition_prefix [] h

theorem partition_append {c : Nat} {a : Str} (b : Str) (h : c ∉ a) :
    partition c (a ++ c :: b) = (a, true, b) := by
  simpa [partition] using partition_prefix (c :: b) h

theorem partition_suffix {c : Nat} {a : Str} (b : Str) (h : c ∉ a) :
    partition c (a ++ (if b.isEmpty then [] else c :: b)) = (a, !b.isEmpty, b) := by
  cases b with
  | nil => simpa using partition_not_mem h
  | cons x xs => simpa using partition_append (x :: xs) h

theorem rpartition_not_mem {c : Nat} {s : Str} (h : c ∉ s) : rpartition c s = ([], false, s) := by
  have : c ∉ s.reverse := by simpa using h
  simp [rpartition, partition_not_mem this]

theorem rpartition_append {c : Nat} (a : Str) {b : Str} (h : c ∉ b) :
    rpartition c (a ++ c :: b) = (a, true, b) := by
  have hr : c ∉ b.reverse := by simpa using h
  have e : (a ++ c :: b).reverse = b.reverse ++ c :: a.reverse := by simp
  simp [rpartition, e, partition_append _ hr]

theorem rsplitHead_append {c : Nat} (a : Str) {b : Str} (h : c ∉ b) : rsplitHead c (a ++ c :: b) = a := by
  simp [rsplitHead, rpartition_append a h]

theorem rsplitHead_not_mem {c : Nat} {s : Str} (h : c ∉ s) : rsplitHead c s = s := by
  simp [rsplitHead, rpartition_not_mem h]

/-! ### character classes -/

/-- no TAB / CR / LF (the characters `urlsplit` removes) -/
def clean (s : Str) : Bool := s.all fun c => !Gen.UrlStd.removeChars.contains c

/-- a scheme as `urlsplit` returns it, i.e. already in lower case -/
def validScheme (s : Str) : Bool :=
  !s.isEmpty && isAsciiAlpha (s.headD 0) && s.all isSchemeChar && s.all fun c => lowerAscii c == c

theorem isSchemeChar_facts {c : Nat} (h : isSchemeChar c = true) :
    c ≠ 58 ∧ Gen.UrlStd.stripChars.contains c = false ∧ Gen.UrlStd.removeChars.contains c = false := by
  have table : Gen.UrlStd.schemeChars.all (fun c => c != 58 && !Gen.UrlStd.stripChars.contains c
      && !Gen.UrlStd.removeChars.contains c) = true := by decide +kernel
  have hm : c ∈ Gen.UrlStd.schemeChars := by simpa [isSchemeChar] using h
  simpa [and_assoc] using List.all_eq_true.mp table c hm

theorem clean_append (a b : Str) : clean (a ++ b) = (clean a && clean b) := by simp [clean]

theorem clean_cons (c : Nat) (s : Str) :
    clean (c :: s) = (!Gen.UrlStd.removeChars.contains c && clean s) := by simp [clean]

theorem validScheme_iff {s : Str} : validScheme s = true ↔
    s ≠ [] ∧ isAsciiAlpha (s.headD 0) = true ∧ (∀ c ∈ s, isSchemeChar c = true) ∧ ∀ c ∈ s, lowerAscii c = c := by
  simp [validScheme, and_assoc]

theorem defaultPort_valid {s : Str} (h : (defaultPort s).isSome = true) : validScheme s = true := by
  have table : Gen.Url.defaultPorts.all (fun e => validScheme e.1) = true := by decide +kernel
  unfold defaultPort at h
  cases hf : Gen.Url.defaultPorts.find? (·.1 == s) with
  | none => simp [hf] at h
  | some e =>
    have := List.all_eq_true.mp table e (List.mem_of_find?_eq_some hf)
    rwa [show e.1 = s by simpa using List.find?_some hf] at this

theorem filter_clean {s : Str} (h : clean s = true) :
    s.filter (fun c => !Gen.UrlStd.removeChars.contains c) = s := by
  rw [List.filter_eq_self]
  simpa [clean] using h

/-! ### urlsplit / unsplit of a text put together from parts -/

/-- "empty or absolute", as the `WF` predicates say it and as the lemmas use it -/
theorem nil_or_abs_iff {p : Str} : (p.isEmpty || p.head? == some 47) = true ↔ p = [] ∨ ∃ t, p = 47 :: t := by
  cases p <;> simp

/-- the text after the authority -/
def tailOf (path query fragment : Str) : Str :=
  path ++ ((if query.isEmpty then [] else 63 :: query) ++ (if fragment.isEmpty then [] else 35 :: fragment))

def schemePrefix (scheme : Str) : Str := if scheme.isEmpty then [] else scheme ++ [58]

theorem tail_stops (path query fragment : Str) (hp : path = [] ∨ ∃ t, path = 47 :: t) :
    tailOf path query fragment = [] ∨ ∃ y ys, tailOf path query fragment = y :: ys ∧ notDelim y = false := by
  rcases hp with rfl | ⟨t, rfl⟩
  · cases query with
    | nil =>
      cases fragment with
      | nil => left; simp [tailOf]
      | cons f fs => right; exact ⟨35, f :: fs, rfl, by decide⟩
    | cons q qs => right; exact ⟨63, _, rfl, by decide⟩
  · right; exact ⟨47, _, rfl, by decide⟩

theorem splitNetloc_assembled (netloc path query fragment : Str)
    (hnd : ∀ c ∈ netloc, notDelim c = true) (hp : path = [] ∨ ∃ t, path = 47 :: t) :
    splitNetloc (47 :: 47 :: (netloc ++ tailOf path query fragment)) = (netloc, tailOf path query fragment) := by
  simp only [splitNetloc]
  rw [(List.span_append_stop hnd (tail_stops _ _ _ hp)).1, (List.span_append_stop hnd (tail_stops _ _ _ hp)).2]

theorem partition_tail (path query fragment : Str) (hp1 : 63 ∉ path) (hp2 : 35 ∉ path) (hq : 35 ∉ query) :
    (partition 63 (partition 35 (tailOf path query fragment)).1).1 = path ∧
    (partition 63 (partition 35 (tailOf path query fragment)).1).2.2 = query ∧
    (partition 35 (tailOf path query fragment)).2.2 = fragment := by
  have hpq : 35 ∉ path ++ (if query.isEmpty then [] else 63 :: query) := by
    split <;> simp [hp2, hq]
  rw [tailOf, ← List.append_assoc, partition_suffix fragment hpq, partition_suffix query hp1]
  exact ⟨rfl, rfl, rfl⟩

theorem splitScheme_assembled (scheme rest : Str) (hs : scheme = [] ∨ validScheme scheme = true) :
    splitScheme (schemePrefix scheme ++ 47 :: 47 :: rest) = (scheme, 47 :: 47 :: rest) := by
  rcases hs with rfl | hs
  · have h : (partition 58 (47 :: 47 :: rest)).1.headD 0 = 47 := by simp [partition]
    simp only [schemePrefix, List.isEmpty_nil, if_true, List.nil_append, splitScheme, h]
    simp [isAsciiAlpha]
  · obtain ⟨hne, halpha, hchars, hlow⟩ := validScheme_iff.mp hs
    have h58 : 58 ∉ scheme := fun hm => (isSchemeChar_facts (hchars 58 hm)).1 rfl
    have e : schemePrefix scheme ++ 47 :: 47 :: rest = scheme ++ 58 :: (47 :: 47 :: rest) := by
      simp [schemePrefix, hne]
    have hall : scheme.all isSchemeChar = true := List.all_eq_true.mpr hchars
    have hmap : scheme.map lowerAscii = scheme := (List.map_congr_left hlow).trans (List.map_id scheme)
    have halpha' : isAsciiAlpha ((scheme.head?).getD 0) = true := by simpa using halpha
    simp [splitScheme, e, partition_append _ h58, hne, halpha', hall, hmap]

theorem remove_delims : Gen.UrlStd.removeChars.contains 47 = false ∧ Gen.UrlStd.removeChars.contains 58 = false
    ∧ Gen.UrlStd.removeChars.contains 63 = false ∧ Gen.UrlStd.removeChars.contains 35 = false := by decide

theorem urlsplit_assembled (scheme netloc path query fragment : Str)
    (hs : scheme = [] ∨ validScheme scheme = true)
    (hnd : ∀ c ∈ netloc, notDelim c = true)
    (hcn : clean netloc = true) (hcp : clean path = true) (hcq : clean query = true) (hcf : clean fragment = true)
    (hb : bracketsOk netloc = true) (hk : nfkcOk netloc = true)
    (hp : path = [] ∨ ∃ t, path = 47 :: t) (hp1 : 63 ∉ path) (hp2 : 35 ∉ path) (hq : 35 ∉ query) :
    urlsplit (schemePrefix scheme ++ 47 :: 47 :: (netloc ++ tailOf path query fragment))
      = some ⟨scheme, netloc, path, query, fragment⟩ := by
  have hcs : clean scheme = true := by
    rcases hs with rfl | hs
    · rfl
    · simp only [clean, List.all_eq_true, Bool.not_eq_true']
      exact fun c hc => (isSchemeChar_facts ((validScheme_iff.mp hs).2.2.1 c hc)).2.2
  -- nothing is stripped or removed
  have hclean : clean (schemePrefix scheme ++ 47 :: 47 :: (netloc ++ tailOf path query fragment)) = true := by
    obtain ⟨h47, h58, h63, h35⟩ : 47 ∉ Gen.UrlStd.removeChars ∧ 58 ∉ Gen.UrlStd.removeChars
        ∧ 63 ∉ Gen.UrlStd.removeChars ∧ 35 ∉ Gen.UrlStd.removeChars := by simpa using remove_delims
    unfold schemePrefix tailOf
    split <;> split <;> split <;> simp [clean_append, clean_cons, *]
  have hstrip : (schemePrefix scheme ++ 47 :: 47 :: (netloc ++ tailOf path query fragment)).dropWhile
      (Gen.UrlStd.stripChars.contains ·) = schemePrefix scheme ++ 47 :: 47 :: (netloc ++ tailOf path query fragment) := by
    rcases hs with rfl | hs
    · exact List.dropWhile_cons_of_neg (by decide)
    · obtain ⟨hne, _, hch, _⟩ := validScheme_iff.mp hs
      obtain ⟨a, as, rfl⟩ := List.exists_cons_of_ne_nil hne
      have := (isSchemeChar_facts (hch a (by simp))).2.1
      simp only [schemePrefix, List.isEmpty_cons, Bool.false_eq_true, if_false, List.cons_append]
      exact List.dropWhile_cons_of_neg (by simpa using this)
  unfold urlsplit
  simp only [hstrip, filter_clean hclean, splitScheme_assembled scheme _ hs,
    splitNetloc_assembled netloc path query fragment hnd hp, hb, hk, Bool.not_true, Bool.false_eq_true, if_false]
  obtain ⟨e1, e2, e3⟩ := partition_tail path query fragment hp1 hp2 hq
  simp [e1, e2, e3]

theorem unsplit_assembled (scheme netloc path query fragment : Str) (hn : netloc ≠ [])
    (hp : path = [] ∨ ∃ t, path = 47 :: t) :
    unsplit ⟨scheme, netloc, path, query, fragment⟩
      = schemePrefix scheme ++ 47 :: 47 :: (netloc ++ tailOf path query fragment) := by
  have hne : netloc.isEmpty = false := by cases netloc <;> simp_all
  have hpath : (if (!path.isEmpty && path.head? != some 47) = true then 47 :: path else path) = path := by
    rcases hp with rfl | ⟨t, rfl⟩ <;> simp
  simp only [unsplit, hne, Bool.not_false, Bool.true_or, if_true, hpath]
  cases scheme <;> cases query <;> cases fragment <;> simp [schemePrefix, tailOf]

/-! ### decimal rendering -/

theorem renderNat_eq (n : Nat) : renderNat n = Decimal.digits n :=
  Decimal.eq_digits_of_fuel (r := renderNatF) (fun _ _ => rfl) n n (Nat.div_le_self n 10)

theorem renderNat_digits (n : Nat) : ∀ c ∈ renderNat n, isDigit c = true := by
  intro c hc
  rw [renderNat_eq] at hc
  simpa [isDigit] using Decimal.mem_digits hc

theorem renderNat_val (n : Nat) : digitsVal (renderNat n) = n := by
  rw [renderNat_eq]; exact Decimal.foldl_digits n

theorem renderNat_ne_nil (n : Nat) : renderNat n ≠ [] := by
  rw [renderNat_eq]; exact Decimal.digits_ne_nil n

theorem renderNat_length (n : Nat) (h : n ≤ 65535) : (renderNat n).length ≤ 5 := by
  rw [renderNat_eq, Decimal.length_digits_le_iff (by decide)]; omega

theorem renderInt_ofNat (n : Nat) : renderInt (n : Int) = renderNat n := by
  simp [renderInt]

theorem digits_free {ds : Str} (h : ∀ c ∈ ds, isDigit c = true) {x : Nat} (hx : x < 48 ∨ 57 < x) : x ∉ ds := by
  intro hm
  have := h x hm
  simp [isDigit] at this
  omega

/-! ### the authority: user-info, host, port -/

def bracket (inner : Str) : Str := 91 :: (inner ++ [93])

def hostPort (host : Str) (port : Option Nat) : Str :=
  match port with
  | some p => host ++ 58 :: renderNat p
  | none => host

def userText (u : Str) (p : Option Str) : Str :=
  match p with
  | some p => u ++ 58 :: p
  | none => u

/-- the text up to and including `@` -/
def uiPrefix (ui : Option Str) : Str :=
  match ui with
  | some t => t ++ [64]
  | none => []

theorem joinNetloc_eq (u p : Option Str) (host : Str) (port : Option Nat) :
    joinNetloc u p host (port.map Int.ofNat) = uiPrefix (u.map fun u => userText u p) ++ hostPort host port := by
  cases u <;> cases p <;> cases port <;> simp [joinNetloc, uiPrefix, userText, hostPort, renderInt_ofNat]

theorem hostPort_free {host : Str} {port : Option Nat} {x : Nat} (hx : x ∉ host) (hd : x < 48 ∨ 58 < x) :
    x ∉ hostPort host port := by
  cases port with
  | none => simpa [hostPort] using hx
  | some p =>
    simp only [hostPort, List.mem_append, List.mem_cons, not_or]
    exact ⟨hx, by omega, digits_free (renderNat_digits p) (by omega)⟩

theorem rpartition_ui (ui : Option Str) {hp : Str} (h : 64 ∉ hp) :
    rpartition 64 (uiPrefix ui ++ hp) = (ui.getD [], ui.isSome, hp) := by
  cases ui with
  | none => simp [uiPrefix, rpartition_not_mem h]
  | some t =>
    have : uiPrefix (some t) ++ hp = t ++ 64 :: hp := by simp [uiPrefix]
    rw [this, rpartition_append t h]; rfl

theorem userinfo_join (u p : Option Str) {hp : Str} (h : 64 ∉ hp) (hu : ∀ t, u = some t → 58 ∉ t) :
    userinfo (uiPrefix (u.map fun u => userText u p) ++ hp) = (u, if u.isSome then p else none) := by
  unfold userinfo
  rw [rpartition_ui _ h]
  cases u with
  | none => simp
  | some t =>
    have h58 := hu t rfl
    cases p with
    | none => simp [userText, partition_not_mem h58]
    | some pw => simp [userText, partition_append _ h58]

/-- a host as it is written in an authority -/
inductive Host where
  | named (h : Str)        -- registered name or IPv4 literal
  | literal (inner : Str)  -- `[inner]`: IPv6 / IPvFuture literal
  deriving Repr, DecidableEq

/-- the text inside the authority -/
def Host.text : Host → Str
  | .named h => h
  | .literal i => bracket i

/-- the host itself (what `hostname` reports, before lower-casing) -/
def Host.name : Host → Str
  | .named h => h
  | .literal i => i

def WFhost : Host → Bool
  | .named h => !h.isEmpty && !h.contains 58 && !h.contains 64 && !h.contains 91 && !h.contains 93
  | .literal i => !i.isEmpty && !i.contains 64 && !i.contains 91 && !i.contains 93

theorem WFhost_named {h : Str} :
    WFhost (.named h) = true ↔ h ≠ [] ∧ 58 ∉ h ∧ 64 ∉ h ∧ 91 ∉ h ∧ 93 ∉ h := by
  simp [WFhost, and_assoc]

theorem WFhost_literal {i : Str} : WFhost (.literal i) = true ↔ i ≠ [] ∧ 64 ∉ i ∧ 91 ∉ i ∧ 93 ∉ i := by
  simp [WFhost, and_assoc]

theorem WFhost_name_ne_nil {host : Host} (hw : WFhost host = true) : host.name ≠ [] := by
  cases host
  · exact (WFhost_named.mp hw).1
  · exact (WFhost_literal.mp hw).1

theorem WFhost_at_free {host : Host} (hw : WFhost host = true) : 64 ∉ host.text := by
  cases host
  · exact (WFhost_named.mp hw).2.2.1
  · simpa [Host.text, bracket] using (WFhost_literal.mp hw).2.1

theorem hostinfo_join (ui : Option Str) {host : Host} (port : Option Nat) (hw : WFhost host = true) :
    hostinfo (uiPrefix ui ++ hostPort host.text port) = (host.name, port.map renderNat) := by
  unfold hostinfo
  rw [rpartition_ui ui (hostPort_free (WFhost_at_free hw) (by omega))]
  have hp := fun p => renderNat_ne_nil p
  cases host with
  | named h =>
    obtain ⟨_, h58, _, h91, _⟩ := WFhost_named.mp hw
    simp only [Host.text, Host.name, partition_not_mem (hostPort_free h91 (by omega))]
    cases port <;> simp [hostPort, partition_not_mem h58, partition_append _ h58, hp]
  | literal i =>
    obtain ⟨_, _, _, h93⟩ := WFhost_literal.mp hw
    -- `hostPort [] port` is `:port` or nothing; the `[] ++` is the shape `partition_append` wants
    have e : hostPort (bracket i) port = [] ++ 91 :: (i ++ 93 :: hostPort [] port) := by
      cases port <;> simp [hostPort, bracket]
    simp only [Host.text, Host.name, e, partition_append _ (List.not_mem_nil), partition_append _ h93]
    cases port <;> simp [hostPort, partition, hp]

def Port.ofOpt : Option Nat → Port
  | some p => .num p
  | none => .absent

theorem renderNat_int (n : Nat) (h : n ≤ 65535) :
    (renderNat n).all isDigit = true ∧ (renderNat n).length ≤ maxIntDigits :=
  ⟨by simpa [List.all_eq_true] using renderNat_digits n,
   by have := renderNat_length n h; simp [maxIntDigits]; omega⟩

/-- a port number written by `str` is accepted by `int` -/
theorem intOfStr_renderNat (n : Nat) (h : n ≤ 65535) : intOfStr (renderNat n) = some n := by
  simp [intOfStr, renderNat_int n h, renderNat_val, renderNat_ne_nil]

theorem portOf_of_hostinfo {netloc host : Str} (port : Option Nat) (hle : ∀ p, port = some p → p ≤ 65535)
    (h : hostinfo netloc = (host, port.map renderNat)) : portOf netloc = Port.ofOpt port := by
  unfold portOf
  rw [h]
  cases port with
  | none => rfl
  | some p => simp [renderNat_int p (hle p rfl), renderNat_val, hle p rfl, Port.ofOpt]

theorem keepHost_join (ui : Option Str) {host : Host} (port : Option Nat) (hw : WFhost host = true) :
    keepHost (uiPrefix ui ++ hostPort host.text port) = some host.text := by
  unfold keepHost
  rw [rpartition_ui ui (hostPort_free (WFhost_at_free hw) (by omega))]
  cases port with
  | some p =>
    -- behind a port the host text is found whatever it is: the last character is a digit
    have hd := renderNat_digits p _ (List.getLast_mem (renderNat_ne_nil p))
    have hl93 : (renderNat p).getLast (renderNat_ne_nil p) ≠ 93 := by simp [isDigit] at hd; omega
    have h58 : 58 ∉ renderNat p := digits_free (renderNat_digits p) (by omega)
    have hlast : (hostPort host.text (some p)).getLast? = some ((renderNat p).getLast (renderNat_ne_nil p)) := by
      simp [hostPort, List.getLast?_append, List.getLast?_cons, List.getLast?_eq_some_getLast (renderNat_ne_nil p)]
    dsimp only
    rw [hlast]
    simp [hl93, hostPort, rsplitHead_append _ h58]
  | none =>
    cases host with
    | named h =>
      obtain ⟨hne, h58, _, _, h93⟩ := WFhost_named.mp hw
      have hl93 : h.getLast hne ≠ 93 := fun e => h93 (e ▸ List.getLast_mem hne)
      simp [hostPort, Host.text, List.getLast?_eq_some_getLast hne, hl93, rsplitHead_not_mem h58]
    | literal i => simp [hostPort, Host.text, bracket, List.getLast?_cons]

theorem newHost_of_not_mem {h : Str} (h58 : 58 ∉ h) : newHost h = h := by simp [newHost, h58]

theorem newHost_bare {i : Str} (h58 : 58 ∈ i) (h91 : 91 ∉ i) : newHost i = bracket i := by
  have : i.head? ≠ some 91 := fun e => h91 (List.mem_of_mem_head? (by simp [e]))
  simp [newHost, h58, this, bracket]

theorem newHost_bracket (i : Str) : newHost (bracket i) = bracket i := by simp [newHost, bracket]

theorem replaceNetloc_ok (netloc : Str) (kw : Kw) (P : Option Nat) (host : Str)
    (hP : portOf netloc = Port.ofOpt P)
    (hany : (kw.username.isSome || kw.password.isSome || kw.hostname.isSome || kw.port.isSome) = true)
    (hhost : replaceHost netloc kw = some host) :
    replaceNetloc netloc kw = .ok (some (joinNetloc (kw.username.getD (userinfo netloc).1)
      (kw.password.getD (userinfo netloc).2) host (kw.port.getD (P.map Int.ofNat)))) := by
  unfold replaceNetloc
  rw [if_pos hany, hP]
  cases P <;> simp [Port.ofOpt, Port.toOpt, hhost]

/-! ### `_percent_encode` -/

theorem percentEncode_cons (E : Str) (c : Nat) (p : Str) :
    percentEncode E (c :: p) = (if E.contains c then 37 :: hex2 c else [c]) ++ percentEncode E p := by
  simp [percentEncode]

theorem hexDigitUpper_range (n : Nat) (h : n < 16) :
    (48 ≤ hexDigitUpper n ∧ hexDigitUpper n ≤ 57) ∨ (65 ≤ hexDigitUpper n ∧ hexDigitUpper n ≤ 70) := by
  unfold hexDigitUpper; split <;> omega

theorem hexDigitUpper_spec (n : Nat) (h : n < 16) :
    isHexDigit (hexDigitUpper n) = true ∧ hexVal (hexDigitUpper n) = n ∧ hexDigitUpper n ≠ 43 := by
  simp only [isHexDigit, hexVal, isDigit, Bool.or_eq_true, Bool.and_eq_true, decide_eq_true_eq]
  unfold hexDigitUpper
  split
  · rw [if_pos (by omega)]; omega
  · rw [if_neg (by omega), if_pos (by omega)]; omega

/-- an escaped character does not survive, unless it is `%` or a hex digit -/
theorem not_mem_percentEncode {E : Str} {x : Nat} (hE : E.contains x = true)
    (hx : x < 37 ∨ (37 < x ∧ x < 48) ∨ (57 < x ∧ x < 65) ∨ 70 < x) (p : Str) : x ∉ percentEncode E p := by
  induction p with
  | nil => simp [percentEncode]
  | cons c p ih =>
    rw [percentEncode_cons, List.mem_append, not_or]
    refine ⟨?_, ih⟩
    have h1 := hexDigitUpper_range (c / 16 % 16) (by omega)
    have h2 := hexDigitUpper_range (c % 16) (by omega)
    split
    · simp only [hex2, List.mem_cons, List.not_mem_nil, or_false]; omega
    · rename_i hc
      simp only [List.mem_singleton]
      rintro rfl
      exact hc hE

theorem percentEncode_eq_nil (E : Str) {p : Str} : percentEncode E p = [] ↔ p = [] := by
  cases p with
  | nil => simp [percentEncode]
  | cons c p => rw [percentEncode_cons]; split <;> simp

theorem percentEncode_id (E : Str) (p : Str) (h : ∀ c ∈ p, E.contains c = false) : percentEncode E p = p := by
  induction p with
  | nil => simp [percentEncode]
  | cons c p ih =>
    rw [percentEncode_cons, h c (by simp), ih (fun x hx => h x (by simp [hx]))]
    simp

theorem percentEncode_abs (E : Str) (h47 : E.contains 47 = false) (p : Str)
    (hp : p = [] ∨ ∃ t, p = 47 :: t) : percentEncode E p = [] ∨ ∃ t, percentEncode E p = 47 :: t := by
  rcases hp with rfl | ⟨t, rfl⟩
  · left; simp [percentEncode]
  · right; exact ⟨percentEncode E t, by rw [percentEncode_cons, h47]; simp⟩

/-- what the escape sets read from the source guarantee -/
theorem pathEscaped_covers :
    Gen.Url.pathEscaped.contains 63 = true ∧ Gen.Url.pathEscaped.contains 35 = true
    ∧ Gen.UrlStd.removeChars.all (Gen.Url.pathEscaped.contains ·) = true
    ∧ Gen.Url.pathEscaped.contains 47 = false := by decide

/-- TAB, CR, LF (what `urlsplit` drops) lie below every character the quoting functions produce -/
theorem removeChars_lt {c : Nat} (h : Gen.UrlStd.removeChars.contains c = true) : c < 37 := by
  have : Gen.UrlStd.removeChars.all (fun c => decide (c < 37)) = true := by decide
  simpa using List.all_eq_true.mp this c (by simpa using h)

theorem queryEscaped_covers :
    Gen.Url.queryEscaped.contains 35 = true
    ∧ Gen.UrlStd.removeChars.all (Gen.Url.queryEscaped.contains ·) = true := by decide

theorem clean_percentEncode {E : Str} (hE : Gen.UrlStd.removeChars.all (E.contains ·) = true) (p : Str) :
    clean (percentEncode E p) = true := by
  simp only [clean, List.all_eq_true, Bool.not_eq_true', ← Bool.not_eq_true]
  intro c hc hr
  have := removeChars_lt hr
  exact not_mem_percentEncode (List.all_eq_true.mp hE c (by simpa using hr)) (by omega) p hc

/-! ### UTF-8 -/

/-- a Unicode scalar value: what a Python `str` may hold apart from lone surrogates -/
def isScalar (c : Nat) : Bool := c < 1114112 && !(55296 ≤ c && c ≤ 57343)

/-- in the form of the hypotheses of `Utf8.seq_encode` -/
theorem isScalar_iff {c : Nat} : isScalar c = true ↔ c < 1114112 ∧ (c < 55296 ∨ 57343 < c) := by
  simp only [isScalar, Bool.and_eq_true, decide_eq_true_eq, Bool.not_eq_true', Bool.and_eq_false_iff,
    decide_eq_false_iff_not]
  omega

theorem utf8EncodeChar_eq (c : Nat) :
    utf8EncodeChar c = if isScalar c then some (Utf8.encode c) else none := by
  unfold utf8EncodeChar Utf8.encode
  by_cases h1 : c < 128
  · rw [if_pos h1, if_pos h1, if_pos (isScalar_iff.mpr (by omega))]
  rw [if_neg h1, if_neg h1]
  by_cases h2 : c < 2048
  · rw [if_pos h2, if_pos h2, if_pos (isScalar_iff.mpr (by omega))]
  rw [if_neg h2, if_neg h2]
  by_cases hs : (decide (55296 ≤ c) && decide (c ≤ 57343)) = true
  · rw [if_pos hs, if_neg (by rw [isScalar_iff]; simp only [Bool.and_eq_true, decide_eq_true_eq] at hs; omega)]
  rw [if_neg hs]
  simp only [Bool.and_eq_true, decide_eq_true_eq] at hs
  by_cases h3 : c < 65536
  · rw [if_pos h3, if_pos h3, if_pos (isScalar_iff.mpr (by omega))]
  rw [if_neg h3, if_neg h3]
  by_cases h4 : c < 1114112
  · rw [if_pos h4, if_pos (isScalar_iff.mpr (by omega))]
  · rw [if_neg h4, if_neg (by rw [isScalar_iff]; omega)]

theorem utf8EncodeChar_scalar {c : Nat} (h : isScalar c = true) : ∃ e, utf8EncodeChar c = some e :=
  ⟨_, by rw [utf8EncodeChar_eq, if_pos h]⟩

theorem utf8EncodeChar_seq {c : Nat} {e : List Nat} (h : utf8EncodeChar c = some e) : Utf8.Seq c e := by
  rw [utf8EncodeChar_eq] at h
  split at h
  · rename_i hc
    cases h
    exact Utf8.seq_encode (isScalar_iff.mp hc).1 (isScalar_iff.mp hc).2
  · cases h

theorem utf8Step_seq {c b0 : Nat} {e : List Nat} (h : Utf8.Seq c (b0 :: e)) (rest : List Nat) :
    utf8Step b0 (e ++ rest) = (some c, e.length + 1) := by
  -- the model's `secondLo`, `secondHi` are `Utf8.lo2`, `Utf8.hi2` word for word, so `h` fits as it is
  have hsec : ∀ {b1 : Nat}, Utf8.lo2 b0 ≤ b1 ∧ b1 ≤ Utf8.hi2 b0 →
      (decide (secondLo b0 ≤ b1) && decide (b1 ≤ secondHi b0)) = true := by
    intro b1 h; simp only [Bool.and_eq_true, decide_eq_true_eq]; exact h
  cases h with
  | one h => simp [utf8Step, h]
  | two h0 h1 e =>
    have a1 : ¬ b0 < 128 ∧ ¬ b0 < 194 ∧ b0 < 224 := by omega
    simp [utf8Step, a1, isCont, h1, e]
  | three h0 h1 h2 e =>
    have a1 : ¬ b0 < 128 ∧ ¬ b0 < 194 ∧ ¬ b0 < 224 ∧ b0 < 240 := by omega
    simp [utf8Step, a1, isCont, hsec h1, h2, e]
  | four h0 h1 h2 h3 e =>
    have a1 : ¬ b0 < 128 ∧ ¬ b0 < 194 ∧ ¬ b0 < 224 ∧ ¬ b0 < 240 ∧ b0 < 245 := by omega
    simp [utf8Step, a1, isCont, hsec h1, h2, h3, e]

theorem latin1Encode_of_lt {s : Str} (h : ∀ b ∈ s, b < 256) : latin1Encode s = some s := by
  simp [latin1Encode, List.all_eq_true.mpr fun b hb => decide_eq_true (h b hb)]

theorem utf8Encode_cons {c : Nat} {cs : Str} {bs : List Nat} (h : utf8Encode (c :: cs) = some bs) :
    ∃ e bs', utf8EncodeChar c = some e ∧ utf8Encode cs = some bs' ∧ bs = e ++ bs' := by
  unfold utf8Encode at h
  cases he : utf8EncodeChar c with
  | none => simp [he] at h
  | some e =>
    cases hb : utf8Encode cs with
    | none => simp [he, hb] at h
    | some bs' =>
      simp [he, hb] at h
      exact ⟨e, bs', rfl, rfl, h.symm⟩

theorem utf8Encode_scalar {s : Str} (h : ∀ c ∈ s, isScalar c = true) : ∃ bs, utf8Encode s = some bs := by
  induction s with
  | nil => exact ⟨[], rfl⟩
  | cons c cs ih =>
    obtain ⟨e, he⟩ := utf8EncodeChar_scalar (h c (by simp))
    obtain ⟨bs, hb⟩ := ih (fun x hx => h x (by simp [hx]))
    exact ⟨e ++ bs, by simp [utf8Encode, he, hb]⟩

theorem utf8Encode_bytes {s : Str} {bs : List Nat} (h : utf8Encode s = some bs) : ∀ b ∈ bs, b < 256 := by
  induction s generalizing bs with
  | nil => simp [utf8Encode] at h; subst h; simp
  | cons c cs ih =>
    obtain ⟨e, bs', he, hb, rfl⟩ := utf8Encode_cons h
    intro b hb'
    rw [List.mem_append] at hb'
    rcases hb' with hb' | hb'
    · exact (utf8EncodeChar_seq he).lt_256 b hb'
    · exact ih hb b hb'

theorem utf8Encode_append {a b : Str} {x y : List Nat} (ha : utf8Encode a = some x) (hb : utf8Encode b = some y) :
    utf8Encode (a ++ b) = some (x ++ y) := by
  induction a generalizing x with
  | nil => simp [utf8Encode] at ha; subst ha; simpa using hb
  | cons c cs ih =>
    obtain ⟨e, bs', he, hcs, rfl⟩ := utf8Encode_cons ha
    simp [utf8Encode, he, ih hcs]

theorem utf8DecodeF_encode {s : Str} {bs : List Nat} (h : utf8Encode s = some bs) :
    ∀ f, bs.length ≤ f → utf8DecodeF f bs = s.map some := by
  induction s generalizing bs with
  | nil => simp [utf8Encode] at h; subst h; intro f _; cases f <;> rfl
  | cons c cs ih =>
    obtain ⟨e, bs', he, hcs, rfl⟩ := utf8Encode_cons h
    have hseq := utf8EncodeChar_seq he
    obtain ⟨b0, e', rfl⟩ := List.exists_cons_of_ne_nil hseq.ne_nil
    intro f hf
    cases f with
    | zero => simp at hf
    | succ f =>
      have hlen : bs'.length ≤ f := by simp at hf; omega
      simp only [List.cons_append, utf8DecodeF, utf8Step_seq hseq, List.map_cons, Nat.add_sub_cancel]
      rw [List.drop_left' rfl, ih hcs f hlen]

theorem utf8Decode_encode {s : Str} {bs : List Nat} (h : utf8Encode s = some bs) : utf8Decode bs = s.map some :=
  utf8DecodeF_encode h _ (Nat.le_refl _)

theorem utf8DecodeReplace_eq_nil {bs : List Nat} : utf8DecodeReplace bs = [] ↔ bs = [] := by
  cases bs <;> simp [utf8DecodeReplace, utf8Decode, utf8DecodeF]

theorem utf8DecodeReplace_encode {s : Str} {bs : List Nat} (h : utf8Encode s = some bs) :
    utf8DecodeReplace bs = s := by
  simp [utf8DecodeReplace, utf8Decode_encode h, Function.comp_def]

theorem utf8DecodeStrict_encode {s : Str} {bs : List Nat} (h : utf8Encode s = some bs) :
    utf8DecodeStrict bs = some s := by
  simp [utf8DecodeStrict, utf8Decode_encode h, Function.comp_def]

theorem utf8DecodeMode_encode (m : Bool) {s : Str} {bs : List Nat} (h : utf8Encode s = some bs) :
    utf8DecodeMode m bs = .ok s := by
  cases m <;> simp [utf8DecodeMode, utf8DecodeReplace_encode h, utf8DecodeStrict_encode h]

/-! ### quote_plus / unquote -/

theorem isSafeByte_facts {b : Nat} (h : isSafeByte b = true) :
    b ≠ 37 ∧ b ≠ 43 ∧ b ≠ 38 ∧ b ≠ 61 ∧ b ≠ 35 ∧ b < 128 ∧ Gen.UrlStd.removeChars.contains b = false := by
  have table : Gen.UrlStd.alwaysSafe.all (fun b => b != 37 && b != 43 && b != 38 && b != 61 && b != 35
      && decide (b < 128) && !Gen.UrlStd.removeChars.contains b) = true := by decide +kernel
  have hm : b ∈ Gen.UrlStd.alwaysSafe := by simpa [isSafeByte] using h
  simpa [and_assoc] using List.all_eq_true.mp table b hm

theorem quotePlusBytes_cons (b : Nat) (bs : List Nat) :
    quotePlusBytes (b :: bs) = (if isSafeByte b then [b] else if b = 32 then [43] else 37 :: hex2 b)
      ++ quotePlusBytes bs := by
  simp [quotePlusBytes]

theorem quotePlusBytes_chars (bs : List Nat) :
    ∀ x ∈ quotePlusBytes bs, x ≠ 38 ∧ x ≠ 61 ∧ x ≠ 35 ∧ x < 128 ∧ Gen.UrlStd.removeChars.contains x = false := by
  induction bs with
  | nil => simp [quotePlusBytes]
  | cons b bs ih =>
    intro x hx
    rw [quotePlusBytes_cons, List.mem_append] at hx
    rcases hx with hx | hx
    · split at hx
      · rename_i hs
        obtain rfl := List.mem_singleton.mp hx
        obtain ⟨_, _, h3, h4, h5, h6, h7⟩ := isSafeByte_facts hs
        exact ⟨h3, h4, h5, h6, h7⟩
      · -- `+`, or `%` and two hex digits: all between 37 and 70
        have h1 := hexDigitUpper_range (b / 16 % 16) (by omega)
        have h2 := hexDigitUpper_range (b % 16) (by omega)
        have hr : 37 ≤ x ∧ x ≤ 70 ∧ x ≠ 38 ∧ x ≠ 61 := by
          split at hx
          · obtain rfl := List.mem_singleton.mp hx; omega
          · simp only [hex2, List.mem_cons, List.not_mem_nil, or_false] at hx
            rcases hx with rfl | rfl | rfl <;> omega
        refine ⟨hr.2.2.1, hr.2.2.2, by omega, by omega, ?_⟩
        cases hc : Gen.UrlStd.removeChars.contains x with
        | false => rfl
        | true => have := removeChars_lt hc; omega
    · exact ih x hx

theorem unquoteBytes_cons_ne {c : Nat} (t : List Nat) (h : c ≠ 37) : unquoteBytes (c :: t) = c :: unquoteBytes t := by
  cases t with
  | nil => rfl
  | cons d t =>
    cases t with
    | nil => rfl
    | cons e r => simp [unquoteBytes, h]

theorem unquoteBytes_pct {a b : Nat} (rest : List Nat) (ha : isHexDigit a = true) (hb : isHexDigit b = true) :
    unquoteBytes (37 :: a :: b :: rest) = (hexVal a * 16 + hexVal b) :: unquoteBytes rest := by
  simp [unquoteBytes, ha, hb]

theorem unquoteBytes_quote (bs : List Nat) (h : ∀ b ∈ bs, b < 256) :
    unquoteBytes (plusToSpace (quotePlusBytes bs)) = bs := by
  induction bs with
  | nil => rfl
  | cons b bs ih =>
    have ih' := ih (fun x hx => h x (by simp [hx]))
    have hb := h b (by simp)
    rw [quotePlusBytes_cons]
    split
    · rename_i hs
      obtain ⟨h37, h43, _⟩ := isSafeByte_facts hs
      simp only [plusToSpace, List.map_cons, if_neg h43, List.singleton_append]
      rw [unquoteBytes_cons_ne _ h37]
      exact congrArg _ ih'
    · split
      · rename_i _ h32
        subst h32
        simp only [plusToSpace, List.map_cons, if_true, List.singleton_append]
        rw [unquoteBytes_cons_ne _ (by omega)]
        exact congrArg _ ih'
      · obtain ⟨a1, a2, a3⟩ := hexDigitUpper_spec (b / 16 % 16) (by omega)
        obtain ⟨b1, b2, b3⟩ := hexDigitUpper_spec (b % 16) (by omega)
        simp only [plusToSpace, hex2, List.map_cons, if_neg a3, if_neg b3,
          show ¬ ((37 : Nat) = 43) by omega, if_false, List.cons_append, List.nil_append]
        rw [unquoteBytes_pct _ a1 b1, a2, b2]
        have : b / 16 % 16 * 16 + b % 16 = b := by omega
        rw [this]
        exact congrArg _ ih'

theorem unquoteF_nil (f : Nat) : unquoteF f [] = [] := by cases f <;> rfl

theorem unquoteBytes_id (s : List Nat) (h : 37 ∉ s) : unquoteBytes s = s := by
  induction s with
  | nil => rfl
  | cons c t ih =>
    obtain ⟨hc, ht⟩ := List.ne_and_not_mem_of_not_mem_cons h
    rw [unquoteBytes_cons_ne _ (Ne.symm hc), ih ht]

theorem utf8Encode_ascii (s : Str) (h : ∀ c ∈ s, c < 128) : utf8Encode s = some s := by
  induction s with
  | nil => rfl
  | cons c cs ih =>
    obtain ⟨hc, hcs⟩ := List.forall_mem_cons.mp h
    simp [utf8Encode, utf8EncodeChar, hc, ih hcs]

/-- an all-ASCII string is one run; without a `%` nothing is decoded, and decoding ASCII as UTF-8
changes nothing -/
theorem unquote_ascii (s : Str) (h : ∀ c ∈ s, c < 128) : unquote s = utf8DecodeReplace (unquoteBytes s) := by
  unfold unquote
  split
  · cases s with
    | nil => rfl
    | cons c cs =>
      have hall : ∀ x ∈ c :: cs, decide (x < 128) = true := by simpa using h
      have hsp := List.span_append_stop (b := []) hall (Or.inl rfl)
      rw [List.append_nil] at hsp
      simp only [List.length_cons, unquoteF, h c (by simp), if_true, hsp.1, hsp.2, unquoteF_nil, List.append_nil]
  · rename_i hno
    rw [unquoteBytes_id s (by simpa using hno), utf8DecodeReplace_encode (utf8Encode_ascii s h)]

theorem plusToSpace_lt (s : Str) (h : ∀ c ∈ s, c < 128) : ∀ c ∈ plusToSpace s, c < 128 := by
  intro c hc
  simp only [plusToSpace, List.mem_map] at hc
  obtain ⟨d, hd, rfl⟩ := hc
  split
  · omega
  · exact h d hd

theorem unquote_quote (bs : List Nat) (h : ∀ b ∈ bs, b < 256) :
    unquote (plusToSpace (quotePlusBytes bs)) = utf8DecodeReplace bs := by
  rw [unquote_ascii _ (plusToSpace_lt _ fun c hc => (quotePlusBytes_chars bs c hc).2.2.2.1),
    unquoteBytes_quote bs h]

/-- `unquote_plus(quote_plus(text)) = text` -/
theorem unquote_quotePlus {s q : Str} (h : quotePlus s = some q) : unquote (plusToSpace q) = s := by
  obtain ⟨bs, he, rfl⟩ := Option.map_eq_some_iff.mp h
  rw [unquote_quote bs (utf8Encode_bytes he), utf8DecodeReplace_encode he]

theorem quotePlus_chars {s q : Str} (h : quotePlus s = some q) :
    ∀ x ∈ q, x ≠ 38 ∧ x ≠ 61 ∧ x ≠ 35 ∧ x < 128 ∧ Gen.UrlStd.removeChars.contains x = false := by
  obtain ⟨bs, _, rfl⟩ := Option.map_eq_some_iff.mp h
  exact quotePlusBytes_chars bs

theorem quotePlus_scalar {s : Str} (h : ∀ c ∈ s, isScalar c = true) : ∃ q, quotePlus s = some q := by
  obtain ⟨bs, hb⟩ := utf8Encode_scalar h
  exact ⟨quotePlusBytes bs, by simp [quotePlus, hb]⟩

/-! ### split on `&` -/

theorem splitOn_eq (c : Nat) (s : Str) : splitOn c s = s.splitOn c := by
  induction s with
  | nil => rfl
  | cons x xs ih =>
    rw [splitOn, List.splitOn_cons_eq_if_modifyHead, ih]
    cases h : List.splitOn c xs with
    | nil => exact absurd h (List.splitOn_ne_nil c xs)
    | cons p ps => simp

/-! ### urlencode / parse_qsl -/

/-- `parse_qsl` on one `name=value` piece -/
def parsePair (nv : Str) : Str × Str :=
  (unquote (plusToSpace (partition 61 nv).1), unquote (plusToSpace (partition 61 nv).2.2))

/-- `parse_qsl`'s test for the empty string changes nothing: splitting it gives one empty piece,
which is dropped -/
theorem parseQsl_eq (q : Str) :
    parseQsl q = ((q.splitOn 38).filter fun s => !s.isEmpty).map parsePair := by
  unfold parseQsl
  split
  · rename_i h
    rw [List.isEmpty_iff.mp h]; rfl
  · rw [splitOn_eq]; rfl

theorem pair_roundtrip {k v qk qv : Str} (hk : quotePlus k = some qk) (hv : quotePlus v = some qv) :
    parsePair (qk ++ 61 :: qv) = (k, v) ∧ 38 ∉ qk ++ 61 :: qv := by
  have h61 : 61 ∉ qk := fun hm => (quotePlus_chars hk 61 hm).2.1 rfl
  have a38 : 38 ∉ qk := fun hm => (quotePlus_chars hk 38 hm).1 rfl
  have b38 : 38 ∉ qv := fun hm => (quotePlus_chars hv 38 hm).1 rfl
  exact ⟨by simp [parsePair, partition_append _ h61, unquote_quotePlus hk, unquote_quotePlus hv],
    by simp [a38, b38]⟩

theorem urlencode_cons {k v : Str} {rest : List (Str × Str)} {q : Str} (h : urlencode ((k, v) :: rest) = some q) :
    ∃ qk qv r, quotePlus k = some qk ∧ quotePlus v = some qv ∧ urlencode rest = some r
      ∧ q = (qk ++ 61 :: qv) ++ (if rest.isEmpty then [] else 38 :: r) := by
  unfold urlencode at h
  cases hk : quotePlus k <;> cases hv : quotePlus v <;> cases hr : urlencode rest <;>
    simp only [hk, hv, hr, reduceCtorEq] at h
  cases h
  exact ⟨_, _, _, rfl, rfl, rfl, by simp⟩

theorem urlencode_scalar {ps : List (Str × Str)}
    (h : ∀ kv ∈ ps, (∀ c ∈ kv.1, isScalar c = true) ∧ ∀ c ∈ kv.2, isScalar c = true) :
    ∃ q, urlencode ps = some q := by
  induction ps with
  | nil => exact ⟨[], rfl⟩
  | cons kv rest ih =>
    obtain ⟨k, v⟩ := kv
    obtain ⟨⟨hk, hv⟩, hrest⟩ := List.forall_mem_cons.mp h
    obtain ⟨qk, hk⟩ := quotePlus_scalar hk
    obtain ⟨qv, hv⟩ := quotePlus_scalar hv
    obtain ⟨r, hr⟩ := ih hrest
    exact ⟨qk ++ 61 :: qv ++ (if rest.isEmpty then [] else 38 :: r), by simp [urlencode, hk, hv, hr]⟩

/-- the output of `urlencode` consists of quoted characters, `=` and `&` -/
theorem urlencode_chars : ∀ (ps : List (Str × Str)) (q : Str), urlencode ps = some q →
    ∀ x ∈ q, x ≠ 35 ∧ Gen.UrlStd.removeChars.contains x = false := by
  intro ps
  induction ps with
  | nil => intro q h; cases h; simp
  | cons kv rest ih =>
    intro q h x hx
    obtain ⟨qk, qv, r, hk, hv, hr, rfl⟩ := urlencode_cons h
    have hq := fun {s t} (hs : quotePlus s = some t) (hm : x ∈ t) =>
      (⟨(quotePlus_chars hs x hm).2.2.1, (quotePlus_chars hs x hm).2.2.2.2⟩ :
        x ≠ 35 ∧ Gen.UrlStd.removeChars.contains x = false)
    simp only [List.mem_append, List.mem_cons] at hx
    rcases hx with (hx | rfl | hx) | hx
    · exact hq hk hx
    · decide
    · exact hq hv hx
    · split at hx
      · simp at hx
      · rcases List.mem_cons.mp hx with rfl | hx
        · decide
        · exact ih r hr x hx

theorem urlencode_parse : ∀ (ps : List (Str × Str)) (q : Str), urlencode ps = some q → parseQsl q = ps := by
  intro ps
  induction ps with
  | nil => intro q h; cases h; rfl
  | cons kv rest ih =>
    intro q h
    obtain ⟨k, v⟩ := kv
    obtain ⟨qk, qv, r, hk, hv, hr, rfl⟩ := urlencode_cons h
    obtain ⟨hpair, h38⟩ := pair_roundtrip hk hv
    have hne : (qk ++ 61 :: qv).isEmpty = false := by simp
    have ih := ih r hr
    rw [parseQsl_eq] at ih ⊢
    cases rest with
    | nil => simp [List.splitOn_eq_singleton h38, hne, hpair]
    | cons kv2 rest2 =>
      rw [if_neg (by simp), List.splitOn_append_cons_self_of_not_mem h38]
      simp [hne, hpair, ih]

end Baize.Url
