/-
The delimiter and blank-line searches on the shapes that occur while a
well-formed body is being received (helper lemmas for C01 / C15).
-/
import BaizeVerif.Lemmas.Multipart

namespace Baize.Multipart

def NoLB (mk : Bytes) : Prop := ∀ x ∈ mk, isLB x = false

/-- the marker does not occur in the content: the hypothesis of C01 under which framing is exact -/
def Free (mk c : Bytes) : Prop := ¬ mk <:+: c

theorem Free.of_infix {mk c c' : Bytes} (h : Free mk c) (hi : c' <:+: c) : Free mk c' :=
  fun hm => h (List.IsInfix.trans hm hi)

/-! ### the marker cannot start inside content that is followed by a line break -/

theorem prefix_of_append_LB {mk : Bytes} (hno : NoLB mk) (A D : Bytes)
    (hD : ∀ x, D.head? = some x → isLB x = true) (hp : mk <+: A ++ D) : mk <+: A := by
  rcases List.prefix_or_prefix_of_prefix hp (List.prefix_append A D) with h | ⟨u, rfl⟩
  · exact h
  · -- `mk = A ++ u` with `u` a prefix of `D`: a non-empty `u` would begin with the line break
    rw [List.prefix_append_right_inj] at hp
    cases u with
    | nil => simp
    | cons y t =>
      obtain ⟨D', rfl⟩ : ∃ D', D = y :: D' := by obtain ⟨w, rfl⟩ := hp; exact ⟨_, rfl⟩
      have := hno y (by simp)
      rw [hD y rfl] at this; cases this

theorem matchDelimAt_none_in_content {o : Bool} {mk c : Bytes} (hfree : Free mk c) (hno : NoLB mk)
    (c1 c2 D : Bytes) (hc : c = c1 ++ c2) (hc2 : c2 ≠ [])
    (hD : D = [] ∨ ∃ r, D = 13 :: r) : matchDelimAt o mk (c2 ++ D) = none := by
  cases hm : matchDelimAt o mk (c2 ++ D) with
  | none => rfl
  | some r =>
    exfalso
    have hp := matchDelimAt_some_prefix hm
    by_cases hk : lbLen (c2 ++ D) ≤ c2.length
    · -- the marker would begin inside the content: it lies in it
      rw [List.drop_append_of_le_length hk] at hp
      have hD' : ∀ x, D.head? = some x → isLB x = true := by
        rcases hD with rfl | ⟨r, rfl⟩ <;> simp [isLB]
      refine hfree (hc ▸ ?_)
      exact ((prefix_of_append_LB hno _ D hD' hp).isInfix.trans (List.drop_suffix _ _).isInfix).trans
        (List.suffix_append c1 c2).isInfix
    · -- the line break would be a CRLF with its LF in `D`
      have h2 := lbLen_le_two (c2 ++ D)
      have hlen : c2.length = 1 := by
        have : c2.length ≠ 0 := fun h0 => hc2 (List.length_eq_zero_iff.mp h0)
        omega
      obtain ⟨r, hr⟩ := lbLen_two (l := c2 ++ D) (by omega)
      match c2, hlen with
      | [x], _ =>
        simp only [List.cons_append, List.nil_append, List.cons.injEq] at hr
        rcases hD with rfl | ⟨r', rfl⟩
        · cases hr.2
        · injection hr.2 with h10 _; cases h10

/-- after `--boundary` a well-formed body continues with CRLF (another part) or `--` (the end) -/
def TailOK (tail : Bytes) : Prop := (∃ R, tail = 13 :: 10 :: R) ∨ (∃ epi, tail = 45 :: 45 :: epi)

theorem TailOK.ne_nil {tail : Bytes} (h : TailOK tail) : tail ≠ [] := by
  rcases h with ⟨R, rfl⟩ | ⟨epi, rfl⟩ <;> simp

theorem append_eq_cons_cons {t rest R : Bytes} {a b : Nat} (h : t ++ rest = a :: b :: R) :
    t = [] ∨ (t = [a] ∧ rest = b :: R) ∨ ∃ t', t = a :: b :: t' ∧ t' ++ rest = R := by
  match t, h with
  | [], _ => exact Or.inl rfl
  | [x], h =>
    simp only [List.cons_append, List.nil_append, List.cons.injEq] at h
    exact Or.inr (Or.inl ⟨by rw [h.1], h.2⟩)
  | x :: y :: t', h =>
    simp only [List.cons_append, List.cons.injEq] at h
    exact Or.inr (Or.inr ⟨t', by rw [h.1, h.2.1], h.2.2⟩)

theorem afterMarker_none_prefix {t1 rest tail : Bytes} (ht : t1 ++ rest = tail) (hok : TailOK tail)
    (h : afterMarker t1 = none) : (t1 = [] ∨ t1 = [45]) ∧ rest ≠ [] := by
  rcases hok with ⟨R, rfl⟩ | ⟨epi, rfl⟩ <;> rcases append_eq_cons_cons ht with rfl | ⟨rfl, hr⟩ | ⟨t', rfl, _⟩
  · exact ⟨Or.inl rfl, by simp [show rest = _ from ht]⟩
  · rw [afterMarker_cr] at h; cases h
  · rw [afterMarker_cr] at h; cases h
  · exact ⟨Or.inl rfl, by simp [show rest = _ from ht]⟩
  · exact ⟨Or.inr rfl, by simp [hr]⟩
  · simp [afterMarker] at h

/-- the line break after the marker is the CRLF, or its CR alone when the LF has not arrived yet:
the LF then stays in front of the next header block -/
theorem afterMarker_more {t1 rest R : Bytes} {n : Nat} {f : Bool} (ht : t1 ++ rest = 13 :: 10 :: R)
    (h : afterMarker t1 = some (n, f)) :
    f = false ∧ ((n = 2 ∧ t1.drop 2 ++ rest = R) ∨ (n = 1 ∧ t1 = [13] ∧ rest = 10 :: R)) := by
  rcases append_eq_cons_cons ht with rfl | ⟨rfl, hr⟩ | ⟨t', rfl, hr⟩
  · rw [afterMarker_nil] at h; cases h
  · rw [afterMarker_cr] at h; cases h; exact ⟨rfl, Or.inr ⟨rfl, rfl, hr⟩⟩
  · rw [afterMarker_cr] at h; cases h; exact ⟨rfl, Or.inl ⟨rfl, hr⟩⟩

theorem afterMarker_last {t1 rest epi : Bytes} {n : Nat} {f : Bool} (ht : t1 ++ rest = 45 :: 45 :: epi)
    (h : afterMarker t1 = some (n, f)) : f = true := by
  rcases append_eq_cons_cons ht with rfl | ⟨rfl, _⟩ | ⟨t', rfl, _⟩
  · rw [afterMarker_nil] at h; cases h
  · simp [afterMarker, isBlank, lbLen] at h
  · simp only [afterMarker, Option.some.injEq, Prod.mk.injEq] at h
    exact h.2.symm

theorem matchDelimAt_marker {o : Bool} {mk : Bytes} (lb t : Bytes) (hlb : lbLen (lb ++ (mk ++ t)) = lb.length)
    (ho : lb = [] → o = true) :
    matchDelimAt o mk (lb ++ (mk ++ t)) =
      (afterMarker t).map fun (r : Nat × Bool) => (lb.length + mk.length + r.1, r.2) := by
  have h1 : (decide (lb.length = 0) && !o) = false := by
    cases lb with
    | nil => simp [ho rfl]
    | cons => simp
  have h2 : (lb ++ (mk ++ t)).drop lb.length = mk ++ t := List.drop_left
  have h3 : (lb ++ (mk ++ t)).drop (lb.length + mk.length) = t := by
    rw [← List.drop_drop, h2, List.drop_left]
  unfold matchDelimAt
  simp only [hlb, h1, h2, h3, List.isPrefixOf_iff_prefix, List.prefix_append, Bool.false_eq_true, if_false, if_true]
  cases afterMarker t <;> rfl

theorem delimSearch_marker_incomplete {o : Bool} {mk t1 : Bytes} (hmk : mk ≠ []) (hno : NoLB mk)
    (ham : afterMarker t1 = none) (ht1 : t1 = [] ∨ t1 = [45]) : delimSearch o mk (mk ++ t1) = none := by
  obtain ⟨x, r, rfl⟩ := List.exists_cons_of_ne_nil hmk
  have hl : lbLen (x :: (r ++ t1)) = 0 := lbLen_cons_of_not_isLB _ (hno x (by simp))
  have hhead : matchDelimAt o (x :: r) (x :: (r ++ t1)) = none := by
    cases o with
    | false => unfold matchDelimAt; simp [hl]
    | true =>
      have := matchDelimAt_marker (o := true) (mk := x :: r) [] t1 hl (fun _ => rfl)
      rwa [ham] at this
  show delimSearch o (x :: r) (x :: (r ++ t1)) = none
  rw [delimSearch_cons_none _ _ _ _ hhead, delimSearch_none_of_short o (x :: r) (r ++ t1)]
  · rfl
  · rcases ht1 with rfl | rfl <;> simp

theorem delimSearch_region_full {o : Bool} {mk t1 : Bytes} (hmk : mk ≠ []) (hno : NoLB mk)
    (ht1 : afterMarker t1 = none → t1 = [] ∨ t1 = [45]) :
    delimSearch o mk (13 :: 10 :: (mk ++ t1)) =
      (afterMarker t1).map fun (r : Nat × Bool) => (0, 2 + mk.length + r.1, r.2) := by
  have h1 : matchDelimAt o mk (13 :: 10 :: (mk ++ t1)) = _ :=
    matchDelimAt_marker [13, 10] t1 rfl (fun h => by cases h)
  have h2 : matchDelimAt o mk (10 :: (mk ++ t1)) = _ := matchDelimAt_marker [10] t1 rfl (fun h => by cases h)
  cases ham : afterMarker t1 with
  | some r =>
    rw [ham] at h1
    exact delimSearch_of_match h1
  | none =>
    rw [ham] at h1 h2
    rw [delimSearch_cons_none _ _ _ _ h1, delimSearch_cons_none _ _ _ _ h2,
      delimSearch_marker_incomplete hmk hno ham (ht1 ham)]
    rfl

theorem delimSearch_region_short {o : Bool} {mk D1 u : Bytes} (hmk : mk ≠ []) (hno : NoLB mk)
    (h : D1 ++ u = 13 :: 10 :: mk) : delimSearch o mk D1 = none := by
  by_cases hu : u = []
  · subst hu
    rw [List.append_nil] at h
    have := delimSearch_region_full (o := o) (t1 := []) hmk hno (fun _ => Or.inl rfl)
    rw [afterMarker_nil, List.append_nil] at this
    rw [h]; exact this
  · have hlen : D1.length ≤ mk.length + 1 := by
      have := congrArg List.length h
      have := List.length_pos_iff.mpr hu
      simp only [List.length_append, List.length_cons] at *
      omega
    apply delimSearch_none_of_forall
    intro A1 A2 hA hne
    cases hmatch : matchDelimAt o mk A2 with
    | none => rfl
    | some r =>
      -- by its length the match would be all of `D1`, with no line break in front; `D1` begins with the CR
      exfalso
      have hb := matchDelimAt_some_bounds hmatch
      have hl := congrArg List.length hA
      rw [List.length_append] at hl
      obtain rfl : A1 = [] := List.length_eq_zero_iff.mp (by omega)
      rw [List.nil_append] at hA
      subst hA
      rcases List.append_eq_cons_iff.mp h with ⟨rfl, _⟩ | ⟨t, rfl, _⟩
      · exact hne rfl
      · exact lbLen_cr_ne_zero t (by omega)

/-- The content `c` of the current part (or a non-empty preamble) and a prefix of its closing
delimiter are in the buffer: either nothing is found and the hold-back index stays within the
content, or the complete delimiter is there and is found exactly at the end of the content. -/
theorem delimSearch_spec {o : Bool} {mk c tail buf rest : Bytes} (hmk : mk ≠ []) (hno : NoLB mk)
    (hfree : Free mk c) (htail : TailOK tail) (h : buf ++ rest = c ++ 13 :: 10 :: (mk ++ tail)) :
    (delimSearch o mk buf = none ∧ holdBack mk buf ≤ c.length ∧ rest ≠ []) ∨
    (∃ t1 n f e, buf.take c.length = c ∧ buf.drop e = t1.drop n ∧ t1 ++ rest = tail ∧
      afterMarker t1 = some (n, f) ∧ delimSearch o mk buf = some (c.length, e, f)) := by
  rcases List.append_eq_append_iff.mp h with ⟨a', hc, hrest⟩ | ⟨D1, hbuf, hX⟩
  · -- the buffer ends inside the content
    refine Or.inl ⟨?_, ?_, by rw [hrest]; simp⟩
    · apply delimSearch_none_of_forall
      intro A1 A2 hA hne
      have hfb : Free mk buf := hfree.of_infix (by rw [hc]; exact (List.prefix_append buf a').isInfix)
      simpa using matchDelimAt_none_in_content (o := o) hfb hno A1 A2 [] hA hne (Or.inl rfl)
    · have := holdBack_le mk buf
      have : buf.length ≤ c.length := by rw [hc]; simp
      omega
  · -- the buffer reaches into the delimiter region `D1`: the search starts there
    have hD1 : D1 = [] ∨ ∃ r, D1 = 13 :: r := by
      rcases List.append_eq_cons_iff.mp hX.symm with ⟨h1, _⟩ | ⟨r, h1, _⟩
      · exact Or.inl h1
      · exact Or.inr ⟨r, h1⟩
    have hshift : delimSearch o mk buf =
        (delimSearch o mk D1).map fun (r : Nat × Nat × Bool) => (r.1 + c.length, r.2.1 + c.length, r.2.2) := by
      rw [hbuf]
      exact delimSearch_append_left o mk c D1 fun A1 A2 hA hne =>
        matchDelimAt_none_in_content hfree hno A1 A2 D1 hA hne hD1
    have hX' : (13 :: 10 :: mk) ++ tail = D1 ++ rest := by simpa using hX
    rcases List.append_eq_append_iff.mp hX' with ⟨t1, hD, ht⟩ | ⟨u, hreg, hrest⟩
    · -- the whole `CRLF --boundary` is there
      have hD' : D1 = 13 :: 10 :: (mk ++ t1) := by simpa using hD
      have hnone := fun hn => afterMarker_none_prefix (rest := rest) ht.symm htail hn
      have hfull := delimSearch_region_full (o := o) (t1 := t1) hmk hno fun hn => (hnone hn).1
      cases ham : afterMarker t1 with
      | none =>
        rw [ham] at hfull
        refine Or.inl ⟨by rw [hshift, hD', hfull]; rfl, ?_, (hnone ham).2⟩
        rw [hbuf, hD']
        refine holdBack_pending hno ?_
        rcases (hnone ham).1 with rfl | rfl
        · exact ⟨[45], by simp⟩
        · exact List.prefix_refl _
      | some r =>
        obtain ⟨n, f⟩ := r
        rw [ham] at hfull
        refine Or.inr ⟨t1, n, f, (c ++ [13, 10]).length + mk.length + n, ?_, ?_, ht.symm, ham, ?_⟩
        · rw [hbuf, List.take_left]
        · rw [hbuf, hD', show c ++ 13 :: 10 :: (mk ++ t1) = (c ++ [13, 10]) ++ (mk ++ t1) by simp,
            Nat.add_assoc, ← List.drop_drop, List.drop_left, ← List.drop_drop, List.drop_left]
        · rw [hshift, hD', hfull]
          simp only [Option.map_some, List.length_append, List.length_cons, List.length_nil]
          congr 3 <;> omega
    · -- at most `CRLF --boundary` is there
      refine Or.inl ⟨by rw [hshift, delimSearch_region_short hmk hno hreg.symm]; rfl, ?_, by rw [hrest]; simp [htail.ne_nil]⟩
      rw [hbuf]
      exact holdBack_pending hno ⟨u ++ [45], by rw [← List.append_assoc, ← hreg]; simp⟩

/-! ### the PREAMBLE branch with an empty preamble: the body starts with the marker -/

theorem preSearch_empty_spec {mk tail buf rest : Bytes} (hmk : mk ≠ []) (hno : NoLB mk) (htail : TailOK tail)
    (h : buf ++ rest = mk ++ tail) :
    (delimSearch true mk buf = none ∧ rest ≠ []) ∨
    ∃ t1 n f, buf = mk ++ t1 ∧ t1 ++ rest = tail ∧ afterMarker t1 = some (n, f) ∧
      delimSearch true mk buf = some (0, mk.length + n, f) := by
  rcases List.append_eq_append_iff.mp h with ⟨a', hm, hrest⟩ | ⟨t1, hb, ht⟩
  · -- at most the marker is there
    exact Or.inl ⟨delimSearch_none_of_short _ _ _ (by rw [hm]; simp), by rw [hrest]; simp [htail.ne_nil]⟩
  · cases ham : afterMarker t1 with
    | none =>
      obtain ⟨ht1, hr⟩ := afterMarker_none_prefix ht.symm htail ham
      exact Or.inl ⟨by rw [hb]; exact delimSearch_marker_incomplete hmk hno ham ht1, hr⟩
    | some r =>
      obtain ⟨n, f⟩ := r
      refine Or.inr ⟨t1, n, f, hb, ht.symm, ham, ?_⟩
      obtain ⟨x, rr, rfl⟩ := List.exists_cons_of_ne_nil hmk
      have := matchDelimAt_marker (o := true) (mk := x :: rr) [] t1
        (lbLen_cons_of_not_isLB _ (hno x (by simp))) (fun _ => rfl)
      rw [ham] at this
      rw [hb]
      simpa using delimSearch_of_match this

/-- a header block as the encoder writes it: non-empty, starts with a visible
character, does not end with a line break, contains no blank line.  (That the first byte is
neither space nor TAB is not for the blank-line search: a stray LF in front of the block must
not make it a continuation line, `headerEvent_slack`.) -/
def HdrOK (H : Bytes) : Prop :=
  (∃ x r, H = x :: r ∧ isLB x = false ∧ x ≠ 32 ∧ x ≠ 9) ∧
  (∃ r x, H = r ++ [x] ∧ isLB x = false) ∧
  (∀ A1 A2, H = A1 ++ A2 → blankAt A2 = 0)

theorem HdrOK.noBlank {slack H : Bytes} (hs : slack = [] ∨ slack = [10]) (hH : HdrOK H) (D A1 A2 : Bytes)
    (hA : slack ++ H = A1 ++ A2) (hne : A2 ≠ []) : blankAt (A2 ++ D) = 0 := by
  obtain ⟨⟨x, hr, hHx, hx, _, _⟩, ⟨r, z, hHz, hz⟩, hblank⟩ := hH
  have hcase : A2 = 10 :: H ∨ ∃ B1, H = B1 ++ A2 := by
    rcases hs with rfl | rfl
    · exact Or.inr ⟨A1, by simpa using hA⟩
    · rcases List.cons_eq_append_iff.mp hA with ⟨_, h2⟩ | ⟨A1', _, h2⟩
      · exact Or.inl h2
      · exact Or.inr ⟨A1', h2⟩
  rcases hcase with rfl | ⟨B1, hB⟩
  · rw [hHx]
    simp [blankAt, (not_isLB hx).2]
  · have hzA : z ∈ A2 := by
      have h1 : (B1 ++ A2).getLast? = some z := by rw [← hB, hHz]; exact List.getLast?_concat
      rw [List.getLast?_append] at h1
      cases h2 : A2.getLast? with
      | none => exact absurd (List.getLast?_eq_none_iff.mp h2) hne
      | some y =>
        rw [h2] at h1
        exact List.mem_of_getLast? (h2.trans (by simpa using h1))
    exact blankAt_append_of_mem hzA hz D (hblank B1 A2 hB)

/-- The PART branch while a header block `H` and (a prefix of) the blank line
after it are being received: the blank line is found exactly when all four of
its bytes are in the buffer, and exactly at the end of the block (a stray LF
left over from the delimiter's CRLF may sit in front). -/
theorem blankLineSearch_spec {slack H R buf rest : Bytes} (hs : slack = [] ∨ slack = [10]) (hH : HdrOK H)
    (h : buf ++ rest = slack ++ H ++ 13 :: 10 :: 13 :: 10 :: R) :
    (blankLineSearch buf = none ∧ rest ≠ []) ∨
    ∃ r1, buf = slack ++ H ++ 13 :: 10 :: 13 :: 10 :: r1 ∧ r1 ++ rest = R ∧
      blankLineSearch buf = some ((slack ++ H).length, (slack ++ H).length + 4) := by
  rcases List.append_eq_append_iff.mp h with ⟨a', hc, hrest⟩ | ⟨D1, hbuf, hX⟩
  · -- the buffer ends inside the header block
    refine Or.inl ⟨blankLineSearch_none_of_forall _ fun A1 A2 hA hne => ?_, by rw [hrest]; simp⟩
    have h2 := hH.noBlank hs [] A1 (A2 ++ a') (by rw [hc, hA]; simp) (by simp [hne])
    exact blankAt_prefix_zero A2 a' (by simpa using h2)
  · -- the buffer reaches into the blank line: the search starts there
    have hshift : blankLineSearch buf =
        (blankLineSearch D1).map fun (r : Nat × Nat) => (r.1 + (slack ++ H).length, r.2 + (slack ++ H).length) := by
      rw [hbuf]
      exact blankLineSearch_append_left (slack ++ H) D1 (hH.noBlank hs D1)
    have found : ∀ r1, D1 = 13 :: 10 :: 13 :: 10 :: r1 → r1 ++ rest = R →
        ∃ r1, buf = slack ++ H ++ 13 :: 10 :: 13 :: 10 :: r1 ∧ r1 ++ rest = R ∧
          blankLineSearch buf = some ((slack ++ H).length, (slack ++ H).length + 4) := by
      intro r1 hD hr
      refine ⟨r1, by rw [hbuf, hD], hr, ?_⟩
      have : blankLineSearch (13 :: 10 :: 13 :: 10 :: r1) = some (0, 4) := by
        rw [blankLineSearch]; simp [blankAt]
      rw [hshift, hD, this]
      simp [Nat.add_comm]
    have hX' : [13, 10, 13, 10] ++ R = D1 ++ rest := by simpa using hX
    rcases List.append_eq_append_iff.mp hX' with ⟨r1, hD, hr⟩ | ⟨u, hreg, hrest⟩
    · exact Or.inr (found r1 (by simpa using hD) hr.symm)
    · by_cases hu : u = []
      · subst hu
        exact Or.inr (found [] (by simpa using hreg.symm) (by simpa using hrest))
      · -- fewer than four bytes of the blank line: they hold no shorter alternative
        refine Or.inl ⟨?_, by rw [hrest]; simp [hu]⟩
        have hk : D1.length < 4 := by
          have := congrArg List.length hreg
          have := List.length_pos_iff.mpr hu
          simp only [List.length_append, List.length_cons, List.length_nil] at *
          omega
        have hD : D1 = [13, 10, 13, 10].take D1.length := List.prefix_iff_eq_take.mp ⟨u, hreg.symm⟩
        have : blankLineSearch D1 = none := by
          rw [hD]
          rcases (by omega : D1.length = 0 ∨ D1.length = 1 ∨ D1.length = 2 ∨ D1.length = 3) with
            h | h | h | h <;> rw [h] <;> rfl
        rw [hshift, this]
        rfl

end Baize.Multipart
