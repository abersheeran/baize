/-
C05 — specification of the two gateway protocols over the traces of `Model/Gateway.lean` (`LegalAsgi`, `LegalWsgi`,
`PrefixLegal…`), the well-formedness of a recipe (what the caller is responsible for), and the helper lemmas of
`Props/C05.lean`, each layer resting on the one before: text predicates → what the response classes store by
themselves (`own_keys`, `own_values`) → the invariant `MapOk` of the header mapping → `construct_ok` → the status
line → `PlanOk` / `plan_spec` (everything before the first `start_response` / `send`) → the calls on any legal
mapping (`wsgiCall_legal`, `asgiCall_legal`, `*_prefix`).
-/
import BaizeVerif.Model.Gateway
import BaizeVerif.Lemmas.Headers
import BaizeVerif.Lemmas.Cookie
import BaizeVerif.Props.C13
import BaizeVerif.Props.C02

namespace Baize.Gateway

open Cookie (Str dictSet dictGet)
open Headers (Hdrs)

def IsLowerName (k : List Nat) : Prop := ∀ c ∈ k, ¬ (65 ≤ c ∧ c ≤ 90)

def IsBytes (b : List Nat) : Prop := ∀ c ∈ b, c < 256

def AsgiHeaderOk (h : Bytes × Bytes) : Prop := IsBytes h.1 ∧ IsLowerName h.1 ∧ IsBytes h.2

/-- the events after the start: body / zero-copy events, `more_body` true on all but the last -/
inductive BodyTail (zc : Bool) : List AEv → Prop
  | lastBody (d : Bytes) : BodyTail zc [.body d false]
  | lastZc (o c : Option Nat) : zc = true → BodyTail zc [.zerocopy o c false]
  | consBody (d : Bytes) (rest : List AEv) : BodyTail zc rest → BodyTail zc (.body d true :: rest)
  | consZc (o c : Option Nat) (rest : List AEv) : zc = true → BodyTail zc rest →
      BodyTail zc (.zerocopy o c true :: rest)

def LegalAsgi (zc : Bool) : List AEv → Prop
  | .start _ hs :: rest => (∀ h ∈ hs, AsgiHeaderOk h) ∧ BodyTail zc rest
  | _ => False

def AEv.isRaise : AEv → Bool
  | .raise _ => true
  | _ => false

def WEv.isRaise : WEv → Bool
  | .raise _ => true
  | _ => false

/-- the events the server received -/
def deliveredA (t : List AEv) : List AEv := t.filter fun e => !e.isRaise
def deliveredW (t : List WEv) : List WEv := t.filter fun e => !e.isRaise

def PrefixLegalAsgi (zc : Bool) (t : List AEv) : Prop := ∃ t', LegalAsgi zc (deliveredA t ++ t')

def IsDigit (c : Nat) : Prop := 48 ≤ c ∧ c ≤ 57

/-- `NNN reason` -/
def StatusLineOk (s : Str) : Prop :=
  ∃ a b c reason, s = a :: b :: c :: 32 :: reason ∧ IsDigit a ∧ IsDigit b ∧ IsDigit c ∧ reason ≠ [] ∧
    ∀ x ∈ reason, 32 ≤ x ∧ x < 127

/-- the hop-by-hop header names (RFC 2616 §13.5.1, `wsgiref.util.is_hop_by_hop`), lower case -/
def hopByHop : List Str :=
  ["connection", "keep-alive", "proxy-authenticate", "proxy-authorization", "te", "trailers",
   "transfer-encoding", "upgrade"].map Cookie.strCps

def TextOk (s : Str) : Prop := ∀ c ∈ s, c < 256 ∧ c ≠ 13 ∧ c ≠ 10 ∧ c ≠ 0

def WsgiHeaderOk (h : Str × Str) : Prop := TextOk h.1 ∧ TextOk h.2 ∧ asciiLower h.1 ∉ hopByHop

def LegalWsgi : List WEv → Prop
  | .startResponse s hs :: rest =>
    StatusLineOk s ∧ (∀ h ∈ hs, WsgiHeaderOk h) ∧ ∀ e ∈ rest, ∃ d, e = .yield d
  | _ => False

def PrefixLegalWsgi (t : List WEv) : Prop := ∃ t', LegalWsgi (deliveredW t ++ t')

/-! ## Well-formed recipes: what the caller is responsible for

baize passes all of the following through unchecked (`Headers.__init__` stores raw, cookie
attributes are copied, media type and charset are concatenated).  For the status range, the header text and the
cookie value `Props/C05.lean` has a witness that the clause is needed (`wf_*_needed_witness`). -/

def Printable (s : Str) : Prop := ∀ x ∈ s, 32 ≤ x ∧ x < 127

/-- name and value are quoted by `Cookie.line`, so any Latin-1 text will do; domain, path and samesite are copied into
the line as they are -/
def WFCookie (c : Cookie.CookieRec) : Prop :=
  (∀ x ∈ c.name, x < 256) ∧ (∀ x ∈ c.value, x < 256) ∧ Printable c.domain ∧ Printable c.path ∧
    Printable c.samesite

/-- no lone surrogate -/
def Encodable (s : Str) : Prop := ∃ b, Headers.utf8Encode s = some b

def WFKind : Kind → Prop
  | .empty => True
  | .small _ mediaType charset _ => TextOk mediaType ∧ TextOk charset
  | .redirect url => Encodable url
  | .stream ct _ => ∀ t, ct = some t → TextOk t
  | .sse charset _ => ∀ t, charset = some t → TextOk t
  | .file f =>
    TextOk f.ctArg ∧ TextOk f.guessed ∧ TextOk f.stat.lastModified ∧ TextOk f.stat.etag ∧ 1 ≤ f.chunk ∧
      Encodable f.downloadName ∧ Encodable f.baseName

def WF (i : Iface) (r : Recipe) : Prop :=
  (i = .wsgi → 100 ≤ statusOf r ∧ statusOf r ≤ 999) ∧
  (∀ kv ∈ r.headers, TextOk kv.1 ∧ TextOk kv.2 ∧ (i = .wsgi → Headers.lower kv.1 ∉ hopByHop)) ∧
  (∀ c ∈ r.cookies, WFCookie c) ∧ WFKind r.kind

/-- nothing raises by itself: the content can be rendered, the producer does not raise -/
def Quiet (i : Iface) (r : Recipe) : Prop :=
  match r.kind with
  | .small cls _ charset content =>
    ∃ b, render (smallCharset i cls charset) content = .ok b
  | .stream _ items => ∀ it ∈ items, ∃ b, it = .chunk b
  | .sse charset events =>
    ∀ it ∈ sseItems (charset.getD (sseDefaultCharset i)) events, ∃ b, it = .chunk b
  | _ => True

/-- the clause of `WF` about `headers=` -/
def PairOk (i : Iface) (kv : Str × Str) : Prop :=
  TextOk kv.1 ∧ TextOk kv.2 ∧ (i = .wsgi → Headers.lower kv.1 ∉ hopByHop)

/-- the name's half of `PairOk` (for the names the response classes write themselves, `own_keys`) -/
def OwnKey (i : Iface) (k : Str) : Prop := TextOk k ∧ (i = .wsgi → Headers.lower k ∉ hopByHop)

instance (s : Str) : Decidable (TextOk s) := by unfold TextOk; infer_instance
instance (s : Str) : Decidable (Printable s) := by unfold Printable; infer_instance
instance (k : List Nat) : Decidable (IsLowerName k) := by unfold IsLowerName; infer_instance
instance (b : List Nat) : Decidable (IsBytes b) := by unfold IsBytes; infer_instance
instance (i : Iface) (kv : Str × Str) : Decidable (PairOk i kv) := by unfold PairOk; infer_instance
instance (i : Iface) (k : Str) : Decidable (OwnKey i k) := by unfold OwnKey; infer_instance

theorem textOk_nil : TextOk [] := by intro c hc; cases hc

theorem textOk_append {a b : Str} (ha : TextOk a) (hb : TextOk b) : TextOk (a ++ b) :=
  List.forall_mem_append.mpr ⟨ha, hb⟩

theorem textOk_of_printable {s : Str} (h : Printable s) : TextOk s := by
  intro c hc; have := h c hc; omega

theorem printable_append {a b : Str} (ha : Printable a) (hb : Printable b) : Printable (a ++ b) :=
  List.forall_mem_append.mpr ⟨ha, hb⟩

theorem textOk_noCtl {s : Str} (h : TextOk s) : Headers.NoCtl s := by
  intro c hc; have := h c hc; omega

theorem textOk_lower {k : Str} (h : TextOk k) : TextOk (Headers.lower k) :=
  List.forall_mem_map.mpr fun d hd => by
    have := h d hd
    unfold Headers.lowerCp
    split <;> omega

theorem isLower_lower (k : Str) : IsLowerName (Headers.lower k) :=
  List.forall_mem_map.mpr fun d _ => by
    unfold Headers.lowerCp
    split <;> omega

/-- The specification lower-cases a name with `asciiLower` (`WsgiHeaderOk`), baize and `WF` with `Headers.lower`
(`str.lower`).  They meet here: a key of the mapping is already lower-case, and `asciiLower` leaves it alone. -/
theorem asciiLower_of_isLower {k : Str} (h : IsLowerName k) : asciiLower k = k :=
  (List.map_congr_left fun c hc => if_neg (h c hc)).trans (List.map_id k)

theorem lower_of_isLower {k : Str} (h : IsLowerName k) (h2 : ∀ c ∈ k, c < 128) : Headers.lower k = k :=
  (List.map_congr_left fun c hc => by
    have := h c hc
    have := h2 c hc
    unfold Headers.lowerCp
    rw [if_neg (by omega)]
    rfl).trans (List.map_id k)

/-! ## What the response classes store by themselves

Every literal of `Gen.Gateway` / `Gen.Headers` / `Gen.SSE` / `Gen.FileResponse` that ends up in a header list, checked once
per interface (by evaluation over what was extracted on this run). -/

theorem pairOk_own {i : Iface} {k v : Str} (hk : OwnKey i k) (hv : TextOk v) : PairOk i (k, v) := ⟨hk.1, hv, hk.2⟩

theorem own_keys (i : Iface) :
    ∀ k ∈ [smallLengthName i, smallTypeName i, emptyBodyHeader i,
      ifaceSel i Gen.Headers.redirectHeader_wsgi Gen.Headers.redirectHeader_asgi,
      ifaceSel i Gen.Gateway.streamTypeKey_wsgi Gen.Gateway.streamTypeKey_asgi, Gen.Gateway.dispositionName,
      FileResponse.hAcceptRanges, FileResponse.hLastModified, FileResponse.hEtag, FileResponse.hContentType,
      FileResponse.hContentLength, FileResponse.hContentRange], OwnKey i k := by
  cases i <;> decide +kernel

theorem own_values (i : Iface) :
    ∀ v ∈ [emptyBodyValue i, smallDefaultCharset i, sseDefaultCharset i,
      ifaceSel i Gen.Gateway.charsetJoin_wsgi Gen.Gateway.charsetJoin_asgi,
      mediaTypeOf i .plain, mediaTypeOf i .html, mediaTypeOf i .json,
      ifaceSel i Gen.Gateway.streamDefaultType_wsgi Gen.Gateway.streamDefaultType_asgi,
      ifaceSel i Gen.Gateway.fileDefaultType_wsgi Gen.Gateway.fileDefaultType_asgi,
      (ifaceSel i Gen.SSE.wsgiCharsetSuffix Gen.SSE.asgiCharsetSuffix).2,
      FileResponse.vBytes, fileBoundary i, Gen.Headers.initJoiner], TextOk v := by
  cases i <;> decide +kernel

theorem required_ok (i : Iface) :
    ∀ kv ∈ ifaceSel i Gen.SSE.wsgiRequiredHeaders Gen.SSE.asgiRequiredHeaders, PairOk i kv := by
  cases i <;> decide +kernel

theorem setCookie_names :
    TextOk Gen.Gateway.setCookieNameStr ∧ asciiLower Gen.Gateway.setCookieNameStr ∉ hopByHop ∧
    IsBytes Gen.Gateway.setCookieNameBytes ∧ IsLowerName Gen.Gateway.setCookieNameBytes := by
  decide +kernel

theorem disposition_literals :
    Printable Gen.Gateway.dispositionPrefix ∧ Printable Gen.Gateway.dispositionMiddle ∧
    32 ≤ Gen.Gateway.fallbackLo ∧ Gen.Gateway.fallbackHi < 127 ∧ Printable Gen.Gateway.fallbackReplacement := by
  decide

theorem control_sub : ∀ c ∈ Gen.Headers.keyControl ++ Gen.Headers.valueControl, c = 13 ∨ c = 10 ∨ c = 0 := by decide

/-- a key as the mapping holds it: what `Headers.lower` makes of the name of a `PairOk` pair (`keyOk_lower`) -/
def KeyOk (i : Iface) (k : Str) : Prop := TextOk k ∧ IsLowerName k ∧ (i = .wsgi → k ∉ hopByHop)

def MapOk (i : Iface) (st : Hdrs) : Prop := ∀ kv ∈ st, KeyOk i kv.1 ∧ TextOk kv.2

theorem mapOk_nil (i : Iface) : MapOk i [] := by intro kv h; cases h

theorem mapOk_dictSet {i : Iface} {st : Hdrs} {k v : Str} (hst : MapOk i st) (hk : KeyOk i k) (hv : TextOk v) :
    MapOk i (dictSet st k v) := by
  intro kv hkv
  rcases Cookie.mem_dictSet hkv with h | h
  · exact hst kv h
  · subst h; exact ⟨hk, hv⟩

theorem keyOk_lower {i : Iface} {kv : Str × Str} (h : PairOk i kv) : KeyOk i (Headers.lower kv.1) :=
  ⟨textOk_lower h.1, isLower_lower _, h.2.2⟩

theorem setItem_ok {i : Iface} {st : Hdrs} {k v : Str} (hst : MapOk i st) (h : PairOk i (k, v)) :
    Headers.setItem st k v = .ok (dictSet st (Headers.lower k) v) ∧ MapOk i (dictSet st (Headers.lower k) v) := by
  refine ⟨?_, mapOk_dictSet hst (keyOk_lower h) h.2.1⟩
  unfold Headers.setItem
  rw [Headers.hasCtl_false_of_noCtl (fun c hc => control_sub c (List.mem_append_left _ hc)) (textOk_noCtl h.1),
    Headers.hasCtl_false_of_noCtl (fun c hc => control_sub c (List.mem_append_right _ hc)) (textOk_noCtl h.2.1)]
  rfl

theorem setH_ok {i : Iface} {st : Hdrs} {k v : Str} (hst : MapOk i st) (h : PairOk i (k, v)) :
    ∃ st', setH st k v = .ok st' ∧ MapOk i st' :=
  ⟨_, by unfold setH; rw [(setItem_ok hst h).1], (setItem_ok hst h).2⟩

theorem updateH_ok {i : Iface} (kvs : List (Str × Str)) :
    ∀ {st : Hdrs}, MapOk i st → (∀ kv ∈ kvs, PairOk i kv) → ∃ st', updateH st kvs = .ok st' ∧ MapOk i st' := by
  unfold updateH
  induction kvs with
  | nil => intro st hst _; exact ⟨st, rfl, hst⟩
  | cons kv rest ih =>
    intro st hst h
    obtain ⟨he, hm⟩ := setItem_ok hst (h kv List.mem_cons_self)
    obtain ⟨st', hu, hm'⟩ := ih hm (fun x hx => h x (List.mem_cons_of_mem _ hx))
    refine ⟨st', ?_, hm'⟩
    rw [Headers.update, he]
    exact hu

theorem initHeaders_ok {i : Iface} (items : List (Str × Str)) (h : ∀ kv ∈ items, PairOk i kv) :
    MapOk i (Headers.initHeaders items) := by
  refine Headers.initHeaders_ind (mapOk_nil i) fun st kv hkv hst => ?_
  have hp := h kv hkv
  unfold Headers.initStep
  cases hg : dictGet st (Headers.lower kv.1) with
  | some old =>
    exact mapOk_dictSet hst (keyOk_lower hp)
      (textOk_append (textOk_append (hst _ (Cookie.dictGet_mem hg)).2 (own_values i _ (by simp))) hp.2.1)
  | none => exact mapOk_dictSet hst (keyOk_lower hp) hp.2.1

theorem cookie_line_printable (c : Cookie.CookieRec) (h : WFCookie c) : Printable (Cookie.line c) := by
  obtain ⟨hn, hv, hd, hp, hs⟩ := h
  intro x hx
  rcases Headers.line_chars c x hx with h | h | h | h | h | h | h
  · omega
  · unfold Headers.Plain at h; omega
  · have := Cookie.quote_ascii' _ hn x h; omega
  · have := Cookie.quote_ascii' _ hv x h; omega
  · exact hd x h
  · exact hp x h
  · exact hs x h

theorem listHeadersStr_ok {st : Hdrs} {cookies : List Cookie.CookieRec} (hst : MapOk .wsgi st)
    (hc : ∀ c ∈ cookies, WFCookie c) : ∀ h ∈ listHeadersStr st cookies, WsgiHeaderOk h := by
  intro h hh
  unfold listHeadersStr at hh
  rcases List.mem_append.mp hh with hh | hh
  · obtain ⟨⟨hk, hl, hhop⟩, hv⟩ := hst h hh
    refine ⟨hk, hv, ?_⟩
    rw [asciiLower_of_isLower hl]
    exact hhop rfl
  · obtain ⟨c, hcm, rfl⟩ := List.mem_map.mp hh
    exact ⟨setCookie_names.1, textOk_of_printable (cookie_line_printable c (hc c hcm)), setCookie_names.2.1⟩

theorem encodeLatin1_ok {s : Str} (h : IsBytes s) : encodeLatin1 s = some s :=
  if_pos (List.all_eq_true.mpr fun c hc => decide_eq_true (h c hc))

theorem encodeAscii_ok {s : Str} (h : ∀ c ∈ s, c < 128) : encodeAscii s = some s :=
  if_pos (List.all_eq_true.mpr fun c hc => decide_eq_true (h c hc))

theorem isBytes_of_textOk {s : Str} (h : TextOk s) : IsBytes s := fun c hc => (h c hc).1

theorem encodePairs_ok : ∀ (l : List (Str × Str)), (∀ kv ∈ l, IsBytes kv.1 ∧ IsBytes kv.2) → encodePairs l = some l
  | [], _ => rfl
  | (k, v) :: rest, h => by
    have h1 := h (k, v) List.mem_cons_self
    simp only [encodePairs, encodeLatin1_ok h1.1, encodeLatin1_ok h1.2,
      encodePairs_ok rest (fun x hx => h x (List.mem_cons_of_mem _ hx))]

theorem encodeCookies_ok : ∀ (cs : List Cookie.CookieRec), (∀ c ∈ cs, WFCookie c) →
    encodeCookies cs = some (cs.map fun c => (Gen.Gateway.setCookieNameBytes, Cookie.line c))
  | [], _ => rfl
  | c :: rest, h => by
    simp only [encodeCookies, List.map_cons,
      encodeLatin1_ok (isBytes_of_textOk (textOk_of_printable (cookie_line_printable c (h c List.mem_cons_self)))),
      encodeCookies_ok rest (fun x hx => h x (List.mem_cons_of_mem _ hx))]

theorem listHeadersBytes_ok {st : Hdrs} {cookies : List Cookie.CookieRec} (hst : MapOk .asgi st)
    (hc : ∀ c ∈ cookies, WFCookie c) :
    ∃ hs, listHeadersBytes st cookies = some hs ∧ ∀ h ∈ hs, AsgiHeaderOk h := by
  have hp : encodePairs st = some st :=
    encodePairs_ok _ fun kv hkv => ⟨isBytes_of_textOk (hst kv hkv).1.1, isBytes_of_textOk (hst kv hkv).2⟩
  refine ⟨_, by unfold listHeadersBytes; rw [hp, encodeCookies_ok cookies hc], ?_⟩
  intro h hh
  rcases List.mem_append.mp hh with hh | hh
  · obtain ⟨⟨hk, hl, _⟩, hv⟩ := hst h hh
    exact ⟨isBytes_of_textOk hk, hl, isBytes_of_textOk hv⟩
  · obtain ⟨c, hcm, rfl⟩ := List.mem_map.mp hh
    exact ⟨setCookie_names.2.2.1, setCookie_names.2.2.2,
      isBytes_of_textOk (textOk_of_printable (cookie_line_printable c (hc c hcm)))⟩

theorem dispositionSafe_printable : ∀ b ∈ Gen.Gateway.dispositionSafe, 0x21 ≤ b ∧ b < 0x7f := by decide

/-- `quote` keeps a byte only if it is in a safe set, and writes every other byte as `%XX` -/
theorem pctEncodeName_printable (b : Nat) (hb : b < 256) : ∀ c ∈ pctEncodeName b, 0x21 ≤ c ∧ c < 0x7f := by
  intro c hc
  unfold pctEncodeName at hc
  split at hc
  · rename_i hs
    rw [List.mem_singleton.mp hc]
    simp only [nameSafeByte, Bool.or_eq_true, Bool.and_eq_true, List.contains_iff_mem] at hs
    rcases hs with hs | ⟨_, hs⟩
    · exact Headers.safe_printable.1 b hs
    · exact dispositionSafe_printable b hs
  · simp only [List.mem_cons, List.mem_nil_iff, or_false] at hc
    rcases hc with rfl | rfl | rfl
    · omega
    · exact Headers.hexDigit_printable (by omega)
    · exact Headers.hexDigit_printable (by omega)

theorem quoteName_ok {s : Str} (h : Encodable s) : ∃ q, quoteName s = some q ∧ Printable q := by
  obtain ⟨bs, hb⟩ := h
  refine ⟨bs.flatMap pctEncodeName, by simp [quoteName, hb], ?_⟩
  intro c hc
  obtain ⟨b, hbm, hcb⟩ := List.mem_flatMap.mp hc
  have := pctEncodeName_printable b (Headers.utf8Encode_bytes s bs hb b hbm) c hcb
  omega

theorem fallbackName_printable (s : Str) : Printable (fallbackName s) := by
  have hl := disposition_literals
  intro c hc
  obtain ⟨d, _, hcd⟩ := List.mem_flatMap.mp hc
  unfold fallbackChar at hcd
  split at hcd
  · simp only [List.mem_cons, List.mem_nil_iff, or_false] at hcd
    omega
  · exact hl.2.2.2.2 c hcd

theorem disposition_ok (i : Iface) (ct : Str) (f : FileSpec) (hd : Encodable f.downloadName) (hb : Encodable f.baseName) :
    ∃ d, disposition ct f = some d ∧ (∀ kv ∈ d, PairOk i kv) ∧ ∀ kv ∈ d, Printable kv.2 := by
  unfold disposition
  split
  · have hn : Encodable (if f.downloadName ≠ [] then f.downloadName else f.baseName) := by
      split
      · exact hd
      · exact hb
    obtain ⟨q, hq, hqp⟩ := quoteName_ok hn
    simp only [hq]
    have hv := printable_append (printable_append (printable_append disposition_literals.1
      (fallbackName_printable (if f.downloadName ≠ [] then f.downloadName else f.baseName))) disposition_literals.2.1) hqp
    exact ⟨_, rfl, List.forall_mem_singleton.mpr (pairOk_own (own_keys i _ (by simp)) (textOk_of_printable hv)),
      List.forall_mem_singleton.mpr hv⟩
  · exact ⟨[], rfl, (by intro kv h; cases h), (by intro kv h; cases h)⟩

theorem commonHeaders_ok (i : Iface) (st : FileResponse.Stat) (hl : TextOk st.lastModified) (he : TextOk st.etag) :
    ∀ kv ∈ FileResponse.commonHeaders st, PairOk i kv := by
  intro kv hkv
  simp only [FileResponse.commonHeaders, List.mem_cons, List.mem_nil_iff, or_false] at hkv
  rcases hkv with rfl | rfl | rfl
  · exact pairOk_own (own_keys i _ (by simp)) (own_values i _ (by simp))
  · exact pairOk_own (own_keys i _ (by simp)) hl
  · refine pairOk_own (own_keys i _ (by simp)) ?_
    intro c hc
    simp only [FileResponse.quoted, List.mem_cons, List.mem_append, List.mem_nil_iff, or_false] at hc
    rcases hc with rfl | hc | rfl
    · omega
    · exact he c hc
    · omega

theorem mem_foldl_dictSet (user : List (Str × Str)) : ∀ (d : List (Str × Str)) (kv : Str × Str),
    kv ∈ user.foldl (fun d kv => dictSet d kv.1 kv.2) d → kv ∈ d ∨ kv ∈ user := by
  induction user with
  | nil => intro d kv h; exact Or.inl h
  | cons u rest ih =>
    intro d kv h
    simp only [List.foldl_cons] at h
    rcases ih _ kv h with h | h
    · rcases Cookie.mem_dictSet h with h | h
      · exact Or.inl h
      · exact Or.inr (by rw [h]; exact List.mem_cons_self)
    · exact Or.inr (List.mem_cons_of_mem _ h)

theorem sseCtorHeaders_ok (i : Iface) (user : List (Str × Str)) (charset : Str)
    (hu : ∀ kv ∈ user, PairOk i kv) (hc : TextOk charset) :
    ∀ kv ∈ sseCtorHeaders i user charset, PairOk i kv := by
  intro kv hkv
  unfold sseCtorHeaders at hkv
  obtain ⟨kv0, hm, rfl⟩ := List.mem_map.mp hkv
  have hbase : PairOk i kv0 := (mem_foldl_dictSet user _ kv0 hm).elim (required_ok i kv0) (hu kv0)
  split
  · exact ⟨hbase.1, textOk_append (textOk_append hbase.2.1 (own_values i _ (by simp))) hc, hbase.2.2⟩
  · exact hbase

theorem fileContentType_ok (i : Iface) (f : FileSpec) (h1 : TextOk f.ctArg) (h2 : TextOk f.guessed) :
    TextOk (fileContentType i f) := by
  unfold fileContentType
  split
  · exact h1
  · split
    · exact h2
    · exact own_values i _ (by simp)

theorem construct_ok (i : Iface) (r : Recipe) (h : WF i r) : ∃ st, construct i r = .ok st ∧ MapOk i st := by
  obtain ⟨status, headers, cookies, kind⟩ := r
  obtain ⟨_, hh, _, hk⟩ := h
  have hinit := initHeaders_ok (i := i) headers hh
  cases kind with
  | empty => exact ⟨_, rfl, hinit⟩
  | small cls mt cs content => exact ⟨_, rfl, hinit⟩
  | redirect url =>
    obtain ⟨bs, hb⟩ := hk
    have hu : Headers.iriToUri url = some (bs.flatMap Headers.pctEncode) := by simp [Headers.iriToUri, hb]
    simp only [construct, hu]
    refine setH_ok hinit (pairOk_own (own_keys i _ (by simp)) fun c hc => ?_)
    have := Headers.redirect_safe url _ hu c hc
    omega
  | stream ct items =>
    refine setH_ok hinit (pairOk_own (own_keys i _ (by simp)) ?_)
    cases ct with
    | some t => exact hk t rfl
    | none => exact own_values i _ (by simp)
  | sse charset events =>
    refine ⟨_, rfl, initHeaders_ok _ (sseCtorHeaders_ok i headers _ hh ?_)⟩
    cases charset with
    | some t => exact hk t rfl
    | none => exact own_values i _ (by simp [sseDefaultCharset])
  | file f =>
    obtain ⟨h1, h2, h3, h4, _, h6, h7⟩ := hk
    obtain ⟨d, hd, hdok, _⟩ := disposition_ok i (fileContentType i f) f h6 h7
    simp only [construct, hd]
    refine updateH_ok _ hinit fun kv hkv => ?_
    rcases List.mem_append.mp hkv with hkv | hkv
    · exact commonHeaders_ok i f.stat h3 h4 kv hkv
    · exact hdok kv hkv

theorem dec_eq (n : Nat) : dec n = Decimal.digits n := rfl

theorem dec_digits (n : Nat) : ∀ x ∈ dec n, 48 ≤ x ∧ x ≤ 57 := fun _ h => Decimal.mem_digits (dec_eq n ▸ h)

theorem dec_textOk (n : Nat) : TextOk (dec n) := by
  intro x hx; have := dec_digits n x hx; omega

theorem dec_length {n : Nat} (h1 : 100 ≤ n) (h2 : n ≤ 999) : (dec n).length = 3 := by
  rw [dec_eq]
  have hle := (Decimal.length_digits_le_iff (n := n) (k := 3) (by omega)).mpr (by omega)
  have hgt : ¬ (Decimal.digits n).length ≤ 2 := fun h =>
    absurd ((Decimal.length_digits_le_iff (by omega)).mp h) (by omega)
  omega

theorem status_table_facts :
    (∀ kv ∈ Gen.Gateway.httpStatusTable, kv.2 ≠ [] ∧ Printable kv.2) ∧
    Gen.Gateway.statusKnownSep = [32] ∧
    (∃ rest, Gen.Gateway.statusFallbackSuffix = 32 :: rest ∧ rest ≠ [] ∧ Printable rest) :=
  ⟨by decide +kernel, by decide, ⟨Gen.Gateway.statusFallbackSuffix.tail, by decide, by decide, by decide⟩⟩

theorem statusLine_shape (code : Nat) :
    ∃ reason, statusLine code = dec code ++ 32 :: reason ∧ reason ≠ [] ∧ Printable reason := by
  have hf := status_table_facts
  unfold statusLine
  cases hl : Gen.Gateway.httpStatusTable.lookup code with
  | some phrase =>
    obtain ⟨l₁, l₂, hmem, -⟩ := List.lookup_eq_some_iff.mp hl
    have hm := hf.1 (code, phrase) (by simp [hmem])
    exact ⟨phrase, by simp [hf.2.1], hm.1, hm.2⟩
  | none =>
    obtain ⟨rest, hr, hne, hp⟩ := hf.2.2
    exact ⟨rest, by simp [hr], hne, hp⟩

theorem statusLine_ok (code : Nat) (h1 : 100 ≤ code) (h2 : code ≤ 999) : StatusLineOk (statusLine code) := by
  obtain ⟨reason, hs, hne, hp⟩ := statusLine_shape code
  have hd := dec_digits code
  match hdec : dec code, dec_length h1 h2 with
  | [a, b, c], _ =>
    rw [hdec] at hd hs
    exact ⟨a, b, c, reason, hs, hd a (by simp), hd b (by simp), hd c (by simp), hne, hp⟩

/-- `some st`: the mapping that `list_headers` will render.  `none`: the raw pairs of the range-error answer, which
are asked to be legal WSGI pairs on either interface: ASGI lower-cases and encodes the same pairs (`asgiStart_ok`). -/
def HeadersFact (i : Iface) (p : Planned) : Prop :=
  match p.mapping with
  | some st => MapOk i st
  | none => ∀ kv ∈ p.raw, WsgiHeaderOk kv

/-- the scope advertised the zero-copy extension -/
def zcOf (r : Recipe) : Bool :=
  match r.kind with
  | .file f => f.zerocopy
  | _ => false

/-- the messages a straight-line call sends after the start are a legal rest of a conversation -/
def AsgiBodyFact (zc : Bool) : BodyPlan → Prop
  | .chunks cs => BodyTail zc (cs.map fun c => .body c false)
  | .events evs => BodyTail zc (evs.map ofEv)
  | .producer _ => True

def QuietBody : BodyPlan → Prop
  | .producer items => ∀ it ∈ items, ∃ b, it = .chunk b
  | _ => True

structure PlanOk (i : Iface) (r : Recipe) (p : Planned) : Prop where
  headers : HeadersFact i p
  status : i = .wsgi → 100 ≤ p.status ∧ p.status ≤ 999
  body : i = .asgi → AsgiBodyFact (zcOf r) p.body

def pieceOk : Gen.FileResponse.Piece → Bool
  | .lit s => s.all fun c => c < 256 && c != 13 && c != 10 && c != 0
  | _ => true

theorem renderTemplate_textOk (e : FileResponse.Env) (ps : List Gen.FileResponse.Piece)
    (hp : ps.all pieceOk = true) (hb : TextOk e.boundary) (hc : TextOk e.contentType) :
    TextOk (FileResponse.renderTemplate e ps) := by
  intro c hcm
  simp only [FileResponse.renderTemplate, List.mem_flatMap] at hcm
  obtain ⟨piece, hpm, hcp⟩ := hcm
  have hok := List.all_eq_true.mp hp piece hpm
  cases piece with
  | lit s =>
    simp only [FileResponse.renderPiece] at hcp
    simp only [pieceOk, List.all_eq_true, Bool.and_eq_true, decide_eq_true_eq, bne_iff_ne, ne_eq] at hok
    have := hok c hcp
    omega
  | text h =>
    simp only [FileResponse.renderPiece] at hcp
    cases h
    · exact hb c hcp
    · exact hc c hcp
  | dec h k =>
    simp only [FileResponse.renderPiece] at hcp
    exact dec_textOk _ c hcp

theorem templates_ok (i : Iface) :
    ∀ t ∈ [ifaceSel i Gen.FileResponse.contentRangeTemplateWsgi Gen.FileResponse.contentRangeTemplateAsgi,
      ifaceSel i Gen.FileResponse.multipartTypeTemplateWsgi Gen.FileResponse.multipartTypeTemplateAsgi,
      Gen.FileResponse.unsatValueTemplate], t.all pieceOk = true := by
  cases i <;> decide

theorem range_error_literals :
    TextOk Gen.FileResponse.unsatHeaderName ∧ asciiLower Gen.FileResponse.unsatHeaderName ∉ hopByHop ∧
    (100 ≤ Gen.FileResponse.malformedStatus ∧ Gen.FileResponse.malformedStatus ≤ 999) ∧
    (100 ≤ Gen.FileResponse.unsatStatus ∧ Gen.FileResponse.unsatStatus ≤ 999) := by
  decide +kernel

/-- asgi `FileResponse` lower-cases the names of the range-error answer before it encodes them: `asgiHeaders` asks this
flag, and `asgiStart_ok` is proved for this value of it -/
theorem asgiErrorLowersName_eq : Gen.Gateway.asgiErrorLowersName = true := rfl

theorem handlerHeaders_ok (i : Iface) (ct : Str) (st : FileResponse.Stat) (p : FileResponse.Plan) (hct : TextOk ct) :
    ∀ kv ∈ handlerHeaders i ct (fileBoundary i) st p, PairOk i kv := by
  have ht := templates_ok i
  intro kv hkv
  cases p <;> simp only [handlerHeaders, List.mem_cons, List.not_mem_nil, or_false] at hkv
  · rcases hkv with rfl | rfl
    · exact pairOk_own (own_keys i _ (by simp)) hct
    · exact pairOk_own (own_keys i _ (by simp)) (dec_textOk _)
  · rcases hkv with rfl | rfl | rfl
    · exact pairOk_own (own_keys i _ (by simp)) (renderTemplate_textOk _ _ (ht _ (by simp)) textOk_nil textOk_nil)
    · exact pairOk_own (own_keys i _ (by simp)) hct
    · exact pairOk_own (own_keys i _ (by simp)) (dec_textOk _)
  · rcases hkv with rfl | rfl
    · exact pairOk_own (own_keys i _ (by simp))
        (renderTemplate_textOk _ _ (ht _ (by simp)) (own_values i _ (by simp)) textOk_nil)
    · exact pairOk_own (own_keys i _ (by simp)) (dec_textOk _)

/-- the ASGI scan of the header list finds what the WSGI lookups find -/
theorem filePlan_eq (i : Iface) (f : FileSpec) : filePlan i f = FileResponse.wsgiPlan f.range f.ifRange f.stat := by
  cases i
  · rfl
  · obtain ⟨_, range, ifRange, _, _, _, _, _, _, _⟩ := f
    cases range <;> cases ifRange <;> rfl

theorem raw_error_ok {hdr : Bytes} {st : FileResponse.Stat} {s : Nat} {hs : List FileResponse.Header} {b : Bytes}
    (h : FileResponse.planOfRange hdr st = .error s hs b) :
    (∀ kv ∈ hs, WsgiHeaderOk kv) ∧ 100 ≤ s ∧ s ≤ 999 := by
  have hl := range_error_literals
  unfold FileResponse.planOfRange at h
  split at h
  · obtain ⟨rfl, rfl, -⟩ := FileResponse.Plan.error.inj h
    exact ⟨(by intro kv hk; cases hk), hl.2.2.1⟩
  · obtain ⟨rfl, rfl, -⟩ := FileResponse.Plan.error.inj h
    refine ⟨?_, hl.2.2.2⟩
    intro kv hk
    rw [List.mem_singleton.mp hk]
    exact ⟨hl.1, renderTemplate_textOk _ _ (templates_ok .wsgi _ (by simp)) textOk_nil textOk_nil, hl.2.1⟩
  · cases h
  · cases h

theorem filePlan_error {i : Iface} {f : FileSpec} {s : Nat} {hs : List FileResponse.Header} {b : Bytes}
    (h : filePlan i f = .error s hs b) : (∀ kv ∈ hs, WsgiHeaderOk kv) ∧ 100 ≤ s ∧ s ≤ 999 := by
  rw [filePlan_eq] at h
  rcases FileResponse.wsgiPlan_cases f.range f.ifRange f.stat with h' | ⟨hdr, h'⟩
  · rw [h'] at h; cases h
  · exact raw_error_ok (h' ▸ h)

/-- C02's `more_body` discipline (`LastOnlyFalse`), with zero-copy messages only where the extension was advertised,
is `BodyTail`; the second hypothesis has the shape of `FileResponse.zerocopy_events`' last conjunct -/
theorem bodyTail_of_lastOnlyFalse {zc : Bool} {evs : List FileResponse.Ev} (h : FileResponse.LastOnlyFalse evs)
    (hz : zc = false → FileResponse.zcMessages evs = []) : BodyTail zc (evs.map ofEv) := by
  obtain ⟨init, last, rfl, hi, hl⟩ := h
  induction init with
  | nil =>
    match last, hl, hz with
    | .body d _, rfl, _ => exact .lastBody d
    | .zerocopy o c _, rfl, hz =>
      cases zc with
      | true => exact .lastZc o c rfl
      | false => exact absurd (hz rfl) (by simp [FileResponse.zcMessages])
  | cons e init ih =>
    have ih := fun hz' => ih hz' fun x hx => hi x (List.mem_cons_of_mem _ hx)
    match e, hi e List.mem_cons_self, hz with
    | .body d _, rfl, hz => exact .consBody d _ (ih fun hf => by simpa [FileResponse.zcMessages] using hz hf)
    | .zerocopy o c _, rfl, hz =>
      cases zc with
      | true => exact .consZc o c _ rfl (ih fun hf => by cases hf)
      | false => exact absurd (hz rfl) (by simp [FileResponse.zcMessages])

theorem fileEvents_bodyTail (zc headOnly : Bool) (ct b : Bytes) (chunk : Nat) (st : FileResponse.Stat)
    (file : Bytes) (p : FileResponse.Plan) (hc : 1 ≤ chunk) :
    BodyTail zc ((FileResponse.asgiEvents zc headOnly ct b chunk st file p).tail.map ofEv) := by
  cases headOnly with
  | true =>
    cases p <;> exact .lastBody _
  | false =>
    obtain ⟨hlast, _, h3⟩ := FileResponse.zerocopy_events zc ct b chunk st file p hc
    refine bodyTail_of_lastOnlyFalse hlast ?_
    rintro rfl
    cases p <;> exact h3

theorem smallHeaders_ok {i : Iface} {st : Hdrs} (mt cs : Str) (body : Bytes) (hst : MapOk i st) (hmt : TextOk mt)
    (hcs : TextOk cs) : ∃ st1, smallHeaders i st mt cs body = .ok st1 ∧ MapOk i st1 := by
  have h1 : ∃ st1, smallLengthRule i st body = .ok st1 ∧ MapOk i st1 := by
    unfold smallLengthRule
    split
    · exact setH_ok hst (pairOk_own (own_keys i _ (by simp)) (dec_textOk _))
    · exact ⟨st, rfl, hst⟩
  obtain ⟨st1, he1, hm1⟩ := h1
  simp only [smallHeaders, he1, smallTypeRule]
  split
  · refine setH_ok hm1 (pairOk_own (own_keys i _ (by simp)) ?_)
    unfold smallContentType
    split
    · exact textOk_append (textOk_append hmt (own_values i _ (by simp))) hcs
    · exact hmt
  · exact ⟨st1, rfl, hm1⟩

theorem smallArgs_ok (i : Iface) (cls : SmallCls) (mt cs : Str) (hmt : TextOk mt) (hcs : TextOk cs) :
    TextOk (smallMediaType i cls mt) ∧ TextOk (smallCharset i cls cs) := by
  constructor
  · unfold smallMediaType; split
    · cases cls <;> exact own_values i _ (by simp)
    · exact hmt
  · unfold smallCharset; split
    · exact own_values i _ (by simp)
    · exact hcs

theorem quietBody_fileBody (i : Iface) (f : FileSpec) (pl : FileResponse.Plan) : QuietBody (fileBody i f pl) := by
  cases i <;> exact trivial

/-- Everything `__call__` does before its first `start_response` / `send`, for a well-formed recipe: what it
plans to hand over is legal, and it raises only where `Quiet` says so (the content cannot be rendered). -/
theorem plan_spec {i : Iface} {r : Recipe} {st : Hdrs} (h : WF i r) (hst : MapOk i st) :
    match plan i r st with
    | .ok p => PlanOk i r p ∧ (Quiet i r → QuietBody p.body)
    | .error _ => ¬ Quiet i r := by
  obtain ⟨status, headers, cookies, kind⟩ := r
  obtain ⟨hstatus, -, -, hk⟩ := h
  have hempty : ∀ r', (i = .wsgi → 100 ≤ status ∧ status ≤ 999) →
      match planEmpty i status st with
      | .ok p => PlanOk i r' p ∧ (Quiet i r' → QuietBody p.body)
      | .error _ => ¬ Quiet i r' := by
    intro r' hs
    obtain ⟨st1, he, hm⟩ := setH_ok (k := emptyBodyHeader i) (v := emptyBodyValue i) hst
      (pairOk_own (own_keys i _ (by simp)) (own_values i _ (by simp)))
    simp only [planEmpty, he]
    exact ⟨⟨hm, hs, fun _ => .lastBody _⟩, fun _ => trivial⟩
  cases kind with
  | empty => exact hempty _ hstatus
  | redirect url => exact hempty _ hstatus
  | small cls mt cs content =>
    obtain ⟨a1, a2⟩ := smallArgs_ok i cls mt cs hk.1 hk.2
    simp only [plan, planSmall, Quiet]
    cases hr : render (smallCharset i cls cs) content with
    | error k => simp
    | ok body =>
      obtain ⟨st1, he, hm⟩ := smallHeaders_ok _ _ body hst a1 a2
      simp only [he]
      exact ⟨⟨hm, hstatus, fun _ => .lastBody _⟩, fun _ => trivial⟩
  | stream ct items => exact ⟨⟨hst, hstatus, fun _ => trivial⟩, id⟩
  | sse charset events => exact ⟨⟨hst, hstatus, fun _ => trivial⟩, id⟩
  | file f =>
    obtain ⟨h1, h2, -, -, hchunk, -, -⟩ := hk
    have hbody : ∀ pl, i = .asgi → AsgiBodyFact f.zerocopy (fileBody i f pl) := by
      rintro pl rfl
      exact fileEvents_bodyTail _ _ _ _ _ _ _ _ hchunk
    have hct := fileContentType_ok i f h1 h2
    simp only [plan, planFile]
    cases hfp : filePlan i f
    case error s hs b =>
      dsimp only
      obtain ⟨hraw, hs⟩ := filePlan_error hfp
      exact ⟨⟨hraw, fun _ => hs, hbody _⟩, fun _ => quietBody_fileBody _ _ _⟩
    all_goals
      dsimp only
      obtain ⟨st1, he, hm⟩ := updateH_ok _ hst (handlerHeaders_ok i _ f.stat _ hct)
      rw [he]
      exact ⟨⟨hm, fun _ => by dsimp only; omega, hbody _⟩, fun _ => quietBody_fileBody _ _ _⟩

theorem plan_ok {i : Iface} {r : Recipe} {st : Hdrs} {p : Planned} (h : WF i r) (hc : construct i r = .ok st)
    (hp : plan i r st = .ok p) : PlanOk i r p := by
  obtain ⟨st', hc', hm⟩ := construct_ok i r h
  obtain rfl : st' = st := Except.ok.inj (hc'.symm.trans hc)
  have hs := plan_spec h hm
  rw [hp] at hs
  exact hs.1

theorem planOk_fault {i : Iface} {r : Recipe} {p : Planned} (h : PlanOk i r p) (fault : Fault) :
    PlanOk i r (withProducerFault fault p) := by
  unfold withProducerFault
  split
  · exact ⟨h.headers, h.status, fun _ => trivial⟩
  · exact h

theorem withProducerFault_eq {fault : Fault} (hf : ∀ k, fault ≠ .producer k) (p : Planned) :
    withProducerFault fault p = p := by
  unfold withProducerFault
  split
  · exact absurd rfl (hf _)
  · rfl

theorem wsgiStart_ok {r : Recipe} {p : Planned} (h : WF .wsgi r) (hp : PlanOk .wsgi r p) :
    StatusLineOk (statusLine p.status) ∧ ∀ kv ∈ wsgiHeaders r p, WsgiHeaderOk kv := by
  refine ⟨statusLine_ok _ (hp.status rfl).1 (hp.status rfl).2, ?_⟩
  obtain ⟨_, _ | st, _, _⟩ := p
  · exact hp.headers
  · exact listHeadersStr_ok hp.headers h.2.2.1

theorem asgiStart_ok {r : Recipe} {p : Planned} (h : WF .asgi r) (hp : PlanOk .asgi r p) :
    ∃ hs, asgiHeaders r p = some hs ∧ ∀ kv ∈ hs, AsgiHeaderOk kv := by
  obtain ⟨_, _ | st, raw, _⟩ := p
  · have hf : ∀ kv ∈ raw, WsgiHeaderOk kv := hp.headers
    have hkv : ∀ kv ∈ raw, IsBytes (Headers.lower kv.1) ∧ IsLowerName (Headers.lower kv.1) ∧ IsBytes kv.2 :=
      fun kv hkv => ⟨isBytes_of_textOk (textOk_lower (hf kv hkv).1), isLower_lower _, isBytes_of_textOk (hf kv hkv).2.1⟩
    simp only [asgiHeaders, asgiErrorLowersName_eq, if_true]
    exact ⟨_, encodePairs_ok _ (List.forall_mem_map.mpr fun kv hm => ⟨(hkv kv hm).1, (hkv kv hm).2.2⟩),
      List.forall_mem_map.mpr hkv⟩
  · exact listHeadersBytes_ok hp.headers h.2.2.1

/-- continues an empty prefix -/
theorem legalWsgi_exists : LegalWsgi [.startResponse (statusLine 200) []] :=
  ⟨statusLine_ok 200 (by omega) (by omega), (by intro h hh; cases hh), (by intro e he; cases he)⟩

theorem legalAsgi_exists (zc : Bool) : LegalAsgi zc [.start 200 [], .body [] false] :=
  ⟨(by intro h hh; cases hh), BodyTail.lastBody []⟩

theorem wsgiItems_shape : ∀ (items : List Item), ∀ e ∈ wsgiItems items,
    (∃ d, e = .yield d) ∨ ∃ k, e = .raise k ∧ Item.boom k ∈ items
  | [], e, he => by cases he
  | .chunk b :: rest, e, he => by
    simp only [wsgiItems, List.mem_cons] at he
    rcases he with rfl | he
    · exact Or.inl ⟨b, rfl⟩
    · exact (wsgiItems_shape rest e he).imp_right fun ⟨k, hk, hm⟩ => ⟨k, hk, List.mem_cons_of_mem _ hm⟩
  | .boom k :: _, e, he => by
    simp only [wsgiItems, List.mem_cons, List.mem_nil_iff, or_false] at he
    exact Or.inr ⟨k, he, List.mem_cons_self⟩

theorem wsgiBody_shape (b : BodyPlan) : ∀ e ∈ wsgiBody b, (∃ d, e = .yield d) ∨ ∃ k, e = .raise k ∧ ¬ QuietBody b := by
  intro e he
  cases b with
  | chunks cs =>
    simp only [wsgiBody, List.mem_map] at he
    obtain ⟨c, _, rfl⟩ := he
    exact Or.inl ⟨c, rfl⟩
  | producer items =>
    refine (wsgiItems_shape items e he).imp_right fun ⟨k, hk, hm⟩ => ⟨k, hk, fun hq => ?_⟩
    obtain ⟨b, hb⟩ := hq _ hm
    cases hb
  | events evs => cases he

theorem prefixLegalWsgi_start {s : Str} {hs : List (Str × Str)} {rest : List WEv} (h1 : StatusLineOk s)
    (h2 : ∀ h ∈ hs, WsgiHeaderOk h) (h3 : ∀ e ∈ rest, (∃ d, e = .yield d) ∨ ∃ k, e = .raise k) :
    PrefixLegalWsgi (.startResponse s hs :: rest) := by
  refine ⟨[], ?_⟩
  simp only [deliveredW, List.append_nil, List.filter_cons, WEv.isRaise, Bool.not_false, if_true]
  refine ⟨h1, h2, ?_⟩
  intro e he
  obtain ⟨hm, hr⟩ := List.mem_filter.mp he
  rcases h3 e hm with h | ⟨k, rfl⟩
  · exact h
  · simp at hr

theorem prefixLegalWsgi_gone {t : List WEv} (h : PrefixLegalWsgi t) : PrefixLegalWsgi (goneW t) := by
  cases t with
  | nil => exact h
  | cons e rest =>
    obtain ⟨t', ht'⟩ := h
    cases e
    case raise k => exact ⟨t', ht'⟩
    all_goals exact ⟨deliveredW rest ++ t', by simpa [goneW, deliveredW, WEv.isRaise] using ht'⟩

theorem wsgiCall_prefix {r : Recipe} {st : Hdrs} (h : WF .wsgi r) (hst : MapOk .wsgi st) (fault : Fault) :
    PrefixLegalWsgi (wsgiCall fault r st) := by
  have hs := plan_spec h hst
  unfold wsgiCall
  cases hp : plan .wsgi r st with
  | error k =>
    simp only
    split
    · exact ⟨_, legalWsgi_exists⟩
    · exact ⟨_, legalWsgi_exists⟩
  | ok p0 =>
    rw [hp] at hs
    obtain ⟨hstart, hhdr⟩ := wsgiStart_ok h (planOk_fault hs.1 fault)
    have hbody : ∀ e ∈ wsgiBody (withProducerFault fault p0).body, (∃ d, e = .yield d) ∨ ∃ k, e = .raise k :=
      fun e he => (wsgiBody_shape _ e he).imp_right fun ⟨k, hk, _⟩ => ⟨k, hk⟩
    have full := prefixLegalWsgi_start hstart hhdr hbody
    cases fault with
    | none => exact full
    | producer k => exact full
    | send k =>
      cases k with
      | zero => exact ⟨_, legalWsgi_exists⟩
      | succ n => exact full
    | disconnect k =>
      simp only
      split
      · exact ⟨_, legalWsgi_exists⟩
      · exact prefixLegalWsgi_start hstart hhdr fun e he => hbody e (List.mem_of_mem_take he)

theorem wsgiCall_legal {r : Recipe} {st : Hdrs} (h : WF .wsgi r) (hst : MapOk .wsgi st) (hq : Quiet .wsgi r) :
    LegalWsgi (wsgiCall .none r st) := by
  have hs := plan_spec h hst
  unfold wsgiCall
  cases hp : plan .wsgi r st with
  | error k => rw [hp] at hs; exact absurd hq hs
  | ok p =>
    rw [hp] at hs
    obtain ⟨hstart, hhdr⟩ := wsgiStart_ok h hs.1
    exact ⟨hstart, hhdr, fun e he => (wsgiBody_shape _ e he).resolve_right fun ⟨_, _, hn⟩ => hn (hs.2 hq)⟩

theorem bodyTail_noRaise {zc : Bool} {l : List AEv} (h : BodyTail zc l) : ∀ e ∈ l, e.isRaise = false := by
  induction h with
  | lastBody d => simp [AEv.isRaise]
  | lastZc o c _ => simp [AEv.isRaise]
  | consBody d rest _ ih => simpa [AEv.isRaise] using ih
  | consZc o c rest _ _ ih => simpa [AEv.isRaise] using ih

theorem deliveredA_of_noRaise {l : List AEv} (h : ∀ e ∈ l, e.isRaise = false) : deliveredA l = l := by
  unfold deliveredA
  apply List.filter_eq_self.mpr
  intro e he
  simp [h e he]

theorem legalAsgi_noRaise {zc : Bool} {t : List AEv} (h : LegalAsgi zc t) : ∀ e ∈ t, e.isRaise = false := by
  unfold LegalAsgi at h
  split at h
  · intro x hx
    rcases List.mem_cons.mp hx with rfl | hx
    · rfl
    · exact bodyTail_noRaise h.2 x hx
  · exact h.elim

theorem prefixLegalAsgi_of_legal {zc : Bool} {t : List AEv} (h : LegalAsgi zc t) : PrefixLegalAsgi zc t :=
  ⟨[], by rw [List.append_nil, deliveredA_of_noRaise (legalAsgi_noRaise h)]; exact h⟩

theorem prefixLegalAsgi_gone {zc : Bool} {t : List AEv} (h : PrefixLegalAsgi zc t) : PrefixLegalAsgi zc (goneA t) := by
  cases t with
  | nil => exact h
  | cons e rest =>
    obtain ⟨t', ht'⟩ := h
    cases e
    case raise k => exact ⟨t', ht'⟩
    all_goals exact ⟨deliveredA rest ++ t', by simpa [goneA, deliveredA, AEv.isRaise] using ht'⟩

theorem prefixLegalAsgi_cut {zc : Bool} {t : List AEv} (h : LegalAsgi zc t) (n : Nat) (k : String) :
    PrefixLegalAsgi zc (t.take n ++ [.raise k]) := by
  refine ⟨t.drop n, ?_⟩
  rw [deliveredA, List.filter_append, ← deliveredA,
    deliveredA_of_noRaise fun e he => legalAsgi_noRaise h e (List.mem_of_mem_take he)]
  simpa [AEv.isRaise] using h

theorem runSends_prefix {zc : Bool} {t : List AEv} (h : LegalAsgi zc t) (failAt : Option Nat) :
    PrefixLegalAsgi zc (runSends failAt t) := by
  unfold runSends
  cases failAt with
  | none => exact prefixLegalAsgi_of_legal h
  | some k =>
    simp only
    split
    · exact prefixLegalAsgi_cut h k _
    · exact prefixLegalAsgi_of_legal h

theorem asgiLoop_bodies (failAt noticed : Option Nat) (items : List Item) (i : Nat) :
    ∀ e ∈ (asgiLoop failAt noticed i items).1, ∃ c, e = .body c true := by
  fun_induction asgiLoop failAt noticed i items with
  | case5 i _ c rest _ r ih =>      -- chunk `c` is sent and the loop goes on: the one branch that emits
    intro e he
    rcases List.mem_cons.mp he with rfl | he
    · exact ⟨c, rfl⟩
    · exact ih e he
  | _ => intro e he; cases he

theorem asgiLoop_quiet (noticed : Option Nat) (items : List Item) (i : Nat)
    (h : ∀ it ∈ items, ∃ b, it = .chunk b) : ∀ k, (asgiLoop none noticed i items).2 ≠ .raised k := by
  fun_induction asgiLoop none noticed i items with
  | case3 i _ k' _ => obtain ⟨b, hb⟩ := h _ List.mem_cons_self; cases hb      -- the producer raises: `h` says no
  | case4 _ _ _ _ hf => cases hf                                              -- `send` raises: `failAt` is `none`
  | case5 i _ c rest _ r ih => exact ih fun x hx => h x (List.mem_cons_of_mem _ hx)     -- a chunk is sent
  | _ => intro k hk; cases hk                                                 -- flag seen, items exhausted

theorem bodyTail_trueBodies {zc : Bool} : ∀ (l : List AEv), (∀ e ∈ l, ∃ c, e = .body c true) →
    BodyTail zc (l ++ [.body [] false])
  | [], _ => .lastBody []
  | e :: rest, h => by
    obtain ⟨c, rfl⟩ := h e List.mem_cons_self
    exact .consBody c _ (bodyTail_trueBodies rest (fun x hx => h x (List.mem_cons_of_mem _ hx)))

theorem prefix_start_bodies_raise {zc : Bool} (status : Nat) (hs : List (Bytes × Bytes)) (l : List AEv) (k : String)
    (hh : ∀ h ∈ hs, AsgiHeaderOk h) (hb : ∀ e ∈ l, ∃ c, e = .body c true) :
    PrefixLegalAsgi zc (.start status hs :: (l ++ [.raise k])) := by
  have hleg : LegalAsgi zc (.start status hs :: (l ++ [.body [] false])) := ⟨hh, bodyTail_trueBodies _ hb⟩
  simpa using prefixLegalAsgi_cut hleg (l.length + 1) k

theorem asgiStreaming_prefix {zc : Bool} (failAt noticed : Option Nat) (status : Nat) (hs : List (Bytes × Bytes))
    (items : List Item) (hh : ∀ h ∈ hs, AsgiHeaderOk h) :
    PrefixLegalAsgi zc (asgiStreaming failAt noticed status hs items) := by
  unfold asgiStreaming
  split
  · exact ⟨_, legalAsgi_exists zc⟩
  · have hb := asgiLoop_bodies failAt noticed items 0
    simp only
    split
    · exact prefix_start_bodies_raise _ _ _ _ hh hb
    · split
      · exact prefix_start_bodies_raise _ _ _ _ hh hb
      · exact prefixLegalAsgi_of_legal ⟨hh, bodyTail_trueBodies _ hb⟩

theorem asgiStreaming_legal {zc : Bool} (noticed : Option Nat) (status : Nat) (hs : List (Bytes × Bytes))
    (items : List Item) (hh : ∀ h ∈ hs, AsgiHeaderOk h) (hq : ∀ it ∈ items, ∃ b, it = .chunk b) :
    LegalAsgi zc (asgiStreaming none noticed status hs items) := by
  have hb := asgiLoop_bodies none noticed items 0
  have hq' := asgiLoop_quiet noticed items 0 hq
  unfold asgiStreaming
  rw [if_neg (by simp)]
  simp only
  cases hr : (asgiLoop none noticed 0 items).2
  case raised k => exact absurd hr (hq' k)
  all_goals
    simp only [reduceCtorEq, if_false]
    exact ⟨hh, bodyTail_trueBodies _ hb⟩

theorem asgiCall_prefix {r : Recipe} {st : Hdrs} (h : WF .asgi r) (hst : MapOk .asgi st) (fault : Fault) :
    PrefixLegalAsgi (zcOf r) (asgiCall fault r st) := by
  have hs := plan_spec h hst
  unfold asgiCall
  cases hp : plan .asgi r st with
  | error k => exact ⟨_, legalAsgi_exists _⟩
  | ok p0 =>
    rw [hp] at hs
    have hpf := planOk_fault hs.1 fault
    obtain ⟨hs', hhs, hok⟩ := asgiStart_ok h hpf
    have hb := hpf.body rfl
    simp only [hhs]
    cases hbody : (withProducerFault fault p0).body with
    | chunks cs => rw [hbody] at hb; exact runSends_prefix (t := .start _ _ :: _) ⟨hok, hb⟩ _
    | events evs => rw [hbody] at hb; exact runSends_prefix (t := .start _ _ :: _) ⟨hok, hb⟩ _
    | producer items => exact asgiStreaming_prefix _ _ _ _ _ hok

/-- `hf`: a client disconnect is not an error on ASGI -/
theorem asgiCall_legal {r : Recipe} {st : Hdrs} (h : WF .asgi r) (hst : MapOk .asgi st) (hq : Quiet .asgi r)
    {fault : Fault} (hf : fault = .none ∨ ∃ k, fault = .disconnect k) :
    LegalAsgi (zcOf r) (asgiCall fault r st) := by
  have hs := plan_spec h hst
  unfold asgiCall
  cases hp : plan .asgi r st with
  | error k => rw [hp] at hs; exact absurd hq hs
  | ok p =>
    rw [hp] at hs
    obtain ⟨hs', hhs, hok⟩ := asgiStart_ok h hs.1
    have hb := hs.1.body rfl
    have hqb := hs.2 hq
    have hw : withProducerFault fault p = p :=
      withProducerFault_eq (by rcases hf with rfl | ⟨k, rfl⟩ <;> (intro k; exact Fault.noConfusion)) p
    simp only [hw, hhs]
    cases hbody : p.body with
    | chunks cs => rw [hbody] at hb; rcases hf with rfl | ⟨k, rfl⟩ <;> exact ⟨hok, hb⟩
    | events evs => rw [hbody] at hb; rcases hf with rfl | ⟨k, rfl⟩ <;> exact ⟨hok, hb⟩
    | producer items =>
      rw [hbody] at hqb
      rcases hf with rfl | ⟨k, rfl⟩ <;> exact asgiStreaming_legal _ _ _ _ hok hqb

end Baize.Gateway
