/-
For C02: the vocabulary of its statements and the lemmas under them.  Each of the two WSGI and the two ASGI loops
is a `readLoop` whose read lengths add up to what is asked for (`readLoop_flatten`).
-/
import BaizeVerif.Model.FileResponse

namespace Baize.FileResponse

open Baize.Gen.FileResponse

/-! The specification vocabulary is written by hand, independent of the generated templates. -/

/-- holds of every plan that is made (the ranges come from a canonical list) -/
def PlanOk (size : Nat) : Plan → Prop
  | .all => True
  | .single s e => s < e ∧ e ≤ size
  | .several rs => ∀ r ∈ rs, r.1 < r.2 ∧ r.2 ≤ size
  | .error status _ _ => status = 400 ∨ status = 416

/-- `bytes s-(e-1)/size` -/
def specContentRange (s e size : Nat) : Bytes :=
  [98, 121, 116, 101, 115, 32] ++ dec s ++ [45] ++ dec (e - 1) ++ [47] ++ dec size

/-- one part of a multipart/byteranges body: delimiter line, `Content-Type`, `Content-Range` of this range,
blank line, the slice, line end -/
def specPart (b ct : Bytes) (size : Nat) (file : Bytes) (r : Nat × Nat) : Bytes :=
  [45, 45] ++ b ++ [10]
    ++ [67, 111, 110, 116, 101, 110, 116, 45, 84, 121, 112, 101, 58, 32] ++ ct ++ [10]
    ++ [67, 111, 110, 116, 101, 110, 116, 45, 82, 97, 110, 103, 101, 58, 32] ++ specContentRange r.1 r.2 size ++ [10]
    ++ [10] ++ slice file r.1 r.2 ++ [10]

/-- the parts, then `--boundary--` -/
def specMultipart (b ct : Bytes) (size : Nat) (rs : List (Nat × Nat)) (file : Bytes) : Bytes :=
  (rs.flatMap (specPart b ct size file)) ++ ([45, 45] ++ b ++ [45, 45, 10])

def planBody (ct b : Bytes) (st : Stat) (file : Bytes) : Plan → Bytes
  | .all => file
  | .single s e => slice file s e
  | .several rs => renderMultipart b ct st.size rs file
  | .error _ _ body => body

def declared (hs : List Header) : Option Bytes := hs.lookup hContentLength

/-- the chunks `ds` as body messages, `more_body` true on all but the last, which carries `more`: the normal form the
send loops of both interfaces are brought to -/
def bodyEvents : List Bytes → Bool → List Ev
  | [], _ => []
  | [d], more => [.body d more]
  | d :: d' :: ds, more => .body d true :: bodyEvents (d' :: ds) more

def Ev.more : Ev → Option Bool
  | .body _ m => some m
  | .zerocopy _ _ m => some m
  | _ => none

def LastOnlyFalse (evs : List Ev) : Prop :=
  ∃ init last, evs = init ++ [last] ∧ (∀ e ∈ init, e.more = some true) ∧ last.more = some false

/-- what one `sendfile` call sends (`more = true` for the parts of a multipart answer) -/
def LastMore (more : Bool) (evs : List Ev) : Prop :=
  ∃ init last, evs = init ++ [last] ∧ (∀ e ∈ init, e.more = some true) ∧ last.more = some more

theorem lastOnlyFalse_iff (evs : List Ev) : LastOnlyFalse evs ↔ LastMore false evs := Iff.rfl

def zcMessages : List Ev → List (Option Nat × Option Nat)
  | [] => []
  | .zerocopy o c _ :: rest => (o, c) :: zcMessages rest
  | _ :: rest => zcMessages rest

/-- the `(offset, count)` of the zero-copy messages a plan must send -/
def planZc : Plan → List (Option Nat × Option Nat)
  | .all => [(none, none)]
  | .single s e => [(some s, some (e - s))]
  | .several rs => rs.map fun r => (some r.1, some (r.2 - r.1))
  | .error _ _ _ => []

/-- the Range header is looked at -/
def Honoured (range ifRange : Option Bytes) (st : Stat) : Prop :=
  range.isSome ∧ (ifRange = none ∨ ifRange = some (quoted st.etag) ∨ ifRange = some st.lastModified)

theorem pyRange_nil {s e c : Nat} (hc : 1 ≤ c) (h : e ≤ s) : pyRange s e c = [] := by
  unfold pyRange
  have : (e - s + c - 1) / c = 0 := Nat.div_eq_of_lt (by omega)
  rw [this]; rfl

theorem pyRange_cons {s e c : Nat} (hc : 1 ≤ c) (h : s < e) :
    pyRange s e c = s :: pyRange (s + c) e c := by
  unfold pyRange
  have h1 : e - s + c - 1 = (e - s - 1) + c := by omega
  rw [h1, Nat.add_div_right _ hc, List.range'_succ]
  congr 1
  by_cases h2 : c ≤ e - s
  · have : e - (s + c) + c - 1 = e - s - 1 := by omega
    rw [this]
  · have e1 : (e - s - 1) / c = 0 := Nat.div_eq_of_lt (by omega)
    have e2 : (e - (s + c) + c - 1) / c = 0 := Nat.div_eq_of_lt (by omega)
    rw [e1, e2]

/-- one read followed by reading on from where it stopped = one longer read -/
theorem read_step (f : Bytes) (pos n m : Nat) :
    (f.drop pos).take n ++ (f.drop (pos + ((f.drop pos).take n).length)).take m
      = (f.drop pos).take (n + m) := by
  rw [List.take_add, List.length_take, List.length_drop, ← List.drop_drop]
  congr 2
  rcases Nat.le_total n (f.length - pos) with h | h
  · rw [Nat.min_eq_left h]
  · rw [Nat.min_eq_right h, List.drop_eq_nil_of_le (by simp), List.drop_eq_nil_of_le (by simpa using h)]

theorem readLoop_flatten (file : Bytes) (ns : List Nat) (pos : Nat) :
    (readLoop file ns pos).flatten = (file.drop pos).take ns.sum := by
  induction ns generalizing pos with
  | nil => simp [readLoop]
  | cons n ns ih =>
    simp only [readLoop, List.flatten_cons, List.sum_cons, ih]
    exact read_step file pos n ns.sum

theorem rangeLens_sum {c : Nat} (hc : 1 ≤ c) (s e : Nat) :
    ((pyRange s e c).map fun here => min c (e - here)).sum = e - s := by
  induction hd : e - s using Nat.strongRecOn generalizing s with
  | _ d ih =>
    by_cases hs : s < e
    · rw [pyRange_cons hc hs, List.map_cons, List.sum_cons, ih (e - (s + c)) (by omega) (s + c) rfl]
      omega
    · rw [pyRange_nil hc (by omega), List.map_nil, List.sum_nil]
      omega

private theorem sendCount_reads (file : Bytes) (chunk count : Nat) (more : Bool) (hc : 1 ≤ chunk) :
    ∀ (fuel here pos : Nat), count - here < fuel →
      ∃ n ns, sendCount file chunk count more fuel here pos = bodyEvents (readLoop file (n :: ns) pos) more ∧
        (n :: ns).sum = count - here := by
  intro fuel
  induction fuel with
  | zero => intro here pos h; omega
  | succ fuel ih =>
    intro here pos h
    simp only [sendCount, beq_iff_eq]
    by_cases hs : min chunk (count - here) = count - here
    · exact ⟨count - here, [], by simp [hs, readLoop, bodyEvents], by simp⟩
    · have hl : min chunk (count - here) = chunk := by omega
      rw [hl] at hs
      obtain ⟨n, ns, heq, hsum⟩ := ih (here + chunk) (pos + ((file.drop pos).take chunk).length) (by omega)
      refine ⟨chunk, n :: ns, ?_, by rw [List.sum_cons, hsum]; omega⟩
      simp only [hl, if_neg hs, heq]
      rfl

private theorem sendAll_reads (file : Bytes) (chunk : Nat) (more : Bool) (hc : 1 ≤ chunk) :
    ∀ (fuel pos : Nat), file.length - pos < fuel →
      ∃ n ns, sendAll file chunk more fuel pos = bodyEvents (readLoop file (n :: ns) pos) more ∧
        file.length - pos ≤ (n :: ns).sum := by
  intro fuel
  induction fuel with
  | zero => intro pos h; omega
  | succ fuel ih =>
    intro pos h
    have hlen : ((file.drop pos).take chunk).length = min chunk (file.length - pos) := by
      rw [List.length_take, List.length_drop]
    simp only [sendAll]
    split
    · obtain ⟨n, ns, heq, hsum⟩ := ih (pos + ((file.drop pos).take chunk).length) (by omega)
      exact ⟨chunk, n :: ns, by rw [heq]; rfl, by rw [List.sum_cons]; omega⟩
    · exact ⟨chunk, [], rfl, by rw [List.sum_singleton]; omega⟩

/-- the emulation terminates (no `Ev.diverges`) and sends the chunks of at least one read, which hold what was
asked for from the position the descriptor is moved to -/
theorem sendfile_spec (file : Bytes) (chunk fdPos : Nat) (o c : Option Nat) (more : Bool)
    (hc : 1 ≤ chunk) :
    ∃ chunks, chunks ≠ [] ∧ sendfile false file chunk fdPos o c more = bodyEvents chunks more ∧
      chunks.flatten = match c with
        | some n => (file.drop (o.getD fdPos)).take n
        | none => file.drop (o.getD fdPos) := by
  cases c with
  | none =>
    obtain ⟨n, ns, heq, hsum⟩ := sendAll_reads file chunk more hc (file.length + 1) (o.getD fdPos) (by omega)
    refine ⟨readLoop file (n :: ns) (o.getD fdPos), List.cons_ne_nil _ _, heq, ?_⟩
    rw [readLoop_flatten]
    exact List.take_of_length_le (by rw [List.length_drop]; exact hsum)
  | some count =>
    obtain ⟨n, ns, heq, hsum⟩ := sendCount_reads file chunk count more hc (count + 1) 0 (o.getD fdPos) (by omega)
    exact ⟨readLoop file (n :: ns) (o.getD fdPos), List.cons_ne_nil _ _, heq, by rw [readLoop_flatten, hsum]; rfl⟩

theorem asgiBody_cons (file : Bytes) (e : Ev) (evs : List Ev) :
    asgiBody file (e :: evs) = Ev.bytes file e ++ asgiBody file evs := rfl

theorem asgiBody_append (file : Bytes) (a b : List Ev) :
    asgiBody file (a ++ b) = asgiBody file a ++ asgiBody file b := by
  simp [asgiBody]

theorem asgiBody_flatMap {α : Type} (file : Bytes) (l : List α) (f : α → List Ev) :
    asgiBody file (l.flatMap f) = l.flatMap fun x => asgiBody file (f x) := List.flatMap_assoc

theorem zcMessages_append (a b : List Ev) : zcMessages (a ++ b) = zcMessages a ++ zcMessages b := by
  induction a with
  | nil => rfl
  | cons e a ih => cases e <;> simp [zcMessages, ih]

theorem zcMessages_flatMap {α : Type} (l : List α) (f : α → List Ev) :
    zcMessages (l.flatMap f) = l.flatMap fun x => zcMessages (f x) := by
  induction l with
  | nil => rfl
  | cons x xs ih => rw [List.flatMap_cons, List.flatMap_cons, zcMessages_append, ih]

theorem asgiBody_bodyEvents (file : Bytes) : ∀ (chunks : List Bytes) (more : Bool),
    asgiBody file (bodyEvents chunks more) = chunks.flatten
  | [], _ => rfl
  | [_], _ => rfl
  | d :: d' :: ds, more => congrArg (d ++ ·) (asgiBody_bodyEvents file (d' :: ds) more)

theorem zcMessages_bodyEvents : ∀ (chunks : List Bytes) (more : Bool),
    zcMessages (bodyEvents chunks more) = []
  | [], _ => rfl
  | [_], _ => rfl
  | _ :: d' :: ds, more => zcMessages_bodyEvents (d' :: ds) more

theorem bodyEvents_more : ∀ {chunks : List Bytes}, chunks ≠ [] → ∀ (more : Bool),
    LastMore more (bodyEvents chunks more)
  | [], h, _ => absurd rfl h
  | [d], _, more => ⟨[], .body d more, rfl, nofun, rfl⟩
  | d :: d' :: ds, _, more => by
    obtain ⟨init, last, heq, hi, hl⟩ := bodyEvents_more (List.cons_ne_nil d' ds) more
    exact ⟨.body d true :: init, last, congrArg (Ev.body d true :: ·) heq,
      List.forall_mem_cons.mpr ⟨rfl, hi⟩, hl⟩

theorem sendfile_bytes (zc : Bool) (file : Bytes) (chunk : Nat) (o c : Option Nat) (more : Bool)
    (hc : 1 ≤ chunk) :
    asgiBody file (sendfile zc file chunk 0 o c more) = Ev.bytes file (.zerocopy o c more) := by
  cases zc with
  | true => simp [sendfile, asgiBody]
  | false =>
    obtain ⟨chunks, _, heq, hfl⟩ := sendfile_spec file chunk 0 o c more hc
    rw [heq, asgiBody_bodyEvents, hfl]
    cases c <;> rfl

theorem sendfile_zc (zc : Bool) (file : Bytes) (chunk : Nat) (o c : Option Nat) (more : Bool)
    (hc : 1 ≤ chunk) :
    zcMessages (sendfile zc file chunk 0 o c more) = if zc then [(o, c)] else [] := by
  cases zc with
  | true => rfl
  | false =>
    obtain ⟨chunks, _, heq, _⟩ := sendfile_spec file chunk 0 o c more hc
    rw [heq, zcMessages_bodyEvents]
    rfl

theorem sendfile_more (zc : Bool) (file : Bytes) (chunk : Nat) (o c : Option Nat) (more : Bool)
    (hc : 1 ≤ chunk) :
    LastMore more (sendfile zc file chunk 0 o c more) := by
  cases zc with
  | true => exact ⟨[], .zerocopy o c more, rfl, nofun, rfl⟩
  | false =>
    obtain ⟨chunks, hne, heq, _⟩ := sendfile_spec file chunk 0 o c more hc
    rw [heq]
    exact bodyEvents_more hne more

theorem dec_length (n : Nat) : (dec n).length = decLen n := by
  simp [dec, decLen]

theorem closing_eq (b : Bytes) :
    renderTemplate { boundary := b } closingTemplateWsgi = [45, 45] ++ b ++ [45, 45, 10] := rfl

theorem contentRange_eq (s e size : Nat) :
    renderTemplate { start := s, stop := e, maxSize := size } contentRangeTemplateWsgi =
      specContentRange s e size := by
  simp only [renderTemplate, contentRangeTemplateWsgi, List.flatMap_cons, List.flatMap_nil, renderPiece,
    Env.int, specContentRange, Nat.sub_zero, List.append_assoc, List.append_nil]

/-- the shape of `multipartTypeTemplateWsgi`: `multipart/byteranges; boundary=`, then the boundary -/
theorem renderTemplate_lit_text (e : Env) (l : Bytes) (h : TextHole) :
    renderTemplate e [.lit l, .text h] = l ++ e.text h := by
  simp only [renderTemplate, List.flatMap_cons, List.flatMap_nil, renderPiece, List.append_nil]

theorem specPart_eq (b ct : Bytes) (size : Nat) (file : Bytes) (r : Nat × Nat) :
    specPart b ct size file r = partHeader b ct size r ++ (slice file r.1 r.2 ++ partTrailerWsgi) := by
  simp only [specPart, specContentRange, partHeader, renderTemplate, partHeaderTemplate, partTrailerWsgi,
    List.flatMap_cons, List.flatMap_nil, renderPiece, Env.text, Env.int, Nat.sub_zero, List.append_assoc,
    List.append_nil]
  -- what is left differs only in where runs of literal bytes are cut
  rfl

theorem slice_length (file : Bytes) (s e : Nat) (h : e ≤ file.length) :
    (slice file s e).length = e - s := by
  rw [slice, List.length_take, List.length_drop]; omega

theorem planOfRange_malformed {hdr : Bytes} {st : Stat} (h : Range.parseRange hdr st.size = .malformed) :
    planOfRange hdr st = .error 400 [] (malformedBody hdr) := by
  simp [planOfRange, h, malformedStatus]

/-- `unsatHeaderName` is `Content-Range` with the capitals that `RangeNotSatisfiable` (baize/exceptions.py) gives it;
the handlers write `content-range` (`hContentRange`), and the model keeps each name as the source has it -/
theorem planOfRange_unsat {hdr : Bytes} {st : Stat} (h : Range.parseRange hdr st.size = .unsatisfiable) :
    planOfRange hdr st = .error 416 [(unsatHeaderName, [42, 47] ++ dec st.size)] [] := by
  simp [planOfRange, h, unsatStatus, unsatValueTemplate, renderTemplate, renderPiece, Env.int]

theorem planOfRange_single {hdr : Bytes} {st : Stat} {s e : Nat}
    (h : Range.parseRange hdr st.size = .ok [(s, e)]) : planOfRange hdr st = .single s e := by
  simp [planOfRange, h]

theorem planOfRange_several {hdr : Bytes} {st : Stat} {rs : List (Nat × Nat)}
    (h : Range.parseRange hdr st.size = .ok rs) (hlen : rs.length ≠ 1) : planOfRange hdr st = .several rs := by
  cases rs with
  | nil => simp [planOfRange, h]
  | cons r rs =>
    cases rs with
    | nil => exact absurd rfl hlen
    | cons r' rs => simp [planOfRange, h]

theorem planOfRange_ne_all (hdr : Bytes) (st : Stat) : planOfRange hdr st ≠ .all := by
  unfold planOfRange
  split <;> simp

theorem judgeIfRange_iff (v : Bytes) (st : Stat) :
    judgeIfRange v st = true ↔ v = quoted st.etag ∨ v = st.lastModified := by
  simp [judgeIfRange]

end Baize.FileResponse
