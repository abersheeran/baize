/-
C06, WSGI `StreamResponse` (`yield from`): what `serve k` returns, by induction on the number `k` of chunks the
server still reads, from a state `Open … j` (`j` items handed over, nothing closed) into `Final`.
-/
import BaizeVerif.Model.StreamWsgi

namespace Baize.StreamWsgi

structure Open (n : Nat) (fails : Bool) (j : Nat) (r : Resp) : Prop where
  hn : r.gen.n = n
  hf : r.gen.fails = fails
  hp : r.gen.produced = j
  hle : j ≤ n
  hd : r.delivered = List.range j
  hod : r.outerDone = false
  hfin : r.gen.finished = false
  hcl : r.gen.cleanups = 0
  hst : r.gen.started = decide (0 < j)
  host : r.outerStarted = decide (0 < j)

structure Final (j : Nat) (r : Resp) : Prop where
  hp : r.gen.produced = j
  hd : r.delivered = List.range j
  hod : r.outerDone = true
  hrel : r.gen.started = true → r.gen.finished = true ∧ r.gen.cleanups = 1
  hun : r.gen.started = false → r.gen.cleanups = 0 ∧ j = 0

def afterItem (r : Resp) : Resp :=
  { r with gen := { r.gen with started := true, produced := r.gen.produced + 1 },
           outerStarted := true, delivered := r.delivered ++ [r.gen.produced] }

theorem serve_spec (n : Nat) (fails : Bool) : ∀ (k j : Nat) (r : Resp), Open n fails j r →
    Final (min n (j + k)) (serve k r).1 ∧
      ((serve k r).2 = .closed ↔ j + k ≤ n) ∧
      ((serve k r).2 = .raised ↔ (n < j + k ∧ fails = true)) ∧
      ((serve k r).2 = .ended ↔ (n < j + k ∧ fails = false))
  | 0, j, r, h => by
    -- the server closes: a started producer is closed, an unstarted one is not touched
    obtain ⟨hn, hf, hp, hle, hd, hod, hfin, hcl, hst, host⟩ := h
    have hmin : min n (j + 0) = j := by omega
    rw [hmin]
    refine ⟨?_, by simp [serve]; omega, by simp [serve]; omega, by simp [serve]; omega⟩
    constructor <;> simp [serve, Resp.close, Gen.close, *] <;> grind
  | k + 1, j, r, h => by
    obtain ⟨hn, hf, hp, hle, hd, hod, hfin, hcl, hst, host⟩ := h
    by_cases hlt : j < n
    · have ih := serve_spec n fails k (j + 1) (afterItem r)
        ⟨hn, hf, by simp [afterItem, hp], by omega, by simp [afterItem, hd, hp, List.range_succ], hod,
          hfin, hcl, by simp [afterItem], by simp [afterItem]⟩
      have e : j + 1 + k = j + (k + 1) := by omega
      rw [e] at ih
      simpa [serve, Resp.next, Gen.next, hod, hfin, hp, hn, hlt, afterItem] using ih
    · -- exhausted: the producer ends (or raises), its finally runs
      have hmin : min n (j + (k + 1)) = j := by omega
      rw [hmin]
      have hnl : ¬ r.gen.produced < r.gen.n := by omega
      cases fails <;>
        simp [serve, Resp.next, Gen.next, hod, hfin, hnl, hf] <;>
        refine ⟨⟨hp, hd, rfl, by simp [hcl], by simp⟩, ?_⟩ <;> omega

theorem open_init (n : Nat) (fails : Bool) : Open n fails 0 { gen := { n := n, fails := fails } } :=
  ⟨rfl, rfl, rfl, Nat.zero_le _, rfl, rfl, rfl, rfl, rfl, rfl⟩

end Baize.StreamWsgi
