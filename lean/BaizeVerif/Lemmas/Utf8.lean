/-
UTF-8: the strict decoder of the multipart model (`decodeUtf8`, = CPython's
`bytes.decode("utf-8")`) inverts the encoder on every sequence of Unicode scalar
values.  The table of well-formed sequences is `Baize.Utf8.Seq`.
-/
import BaizeVerif.Model.Multipart
import BaizeVerif.Lemmas.Utf8Seq

namespace Baize.Multipart

/-- `chr(c).encode("utf-8")` -/
def encodeCp (c : Nat) : Bytes :=
  if c < 128 then [c]
  else if c < 2048 then [192 + c / 64, 128 + c % 64]
  else if c < 65536 then [224 + c / 4096, 128 + (c / 64) % 64, 128 + c % 64]
  else [240 + c / 262144, 128 + (c / 4096) % 64, 128 + (c / 64) % 64, 128 + c % 64]

/-- `text.encode("utf-8")` -/
def encodeUtf8 (l : List Nat) : Bytes := l.flatMap encodeCp

/-- a Unicode scalar value: at most U+10FFFF and not a surrogate -/
def Scalar (c : Nat) : Prop := c < 1114112 ∧ ¬ (55296 ≤ c ∧ c ≤ 57343)

/-- `encodeCp` is the encoder of `Lemmas/Utf8Seq`, written out again -/
theorem encodeCp_eq (c : Nat) : encodeCp c = Utf8.encode c := rfl

theorem encodeCp_seq {c : Nat} (h : Scalar c) : Utf8.Seq c (encodeCp c) :=
  encodeCp_eq c ▸ Utf8.seq_encode h.1 (by have := h.2; omega)

theorem utf8Seq_of_seq {c a : Nat} {m : Bytes} (h : Utf8.Seq c (a :: m)) (rest : Bytes) :
    utf8Seq a (m ++ rest) = some (c, m.length) := by
  unfold utf8Seq
  cases h with
  | one h => rw [if_pos h]; rfl
  | @two _ b1 h0 h1 e =>
    rw [if_neg (by omega), if_pos (by simp; omega)]
    simp [isCont, h1, e]
  | @three _ b1 b2 h0 h1 h2 e =>
    have := Utf8.lo2_hi2 a
    rw [if_neg (by omega), if_neg (by simp; omega), if_pos (by simp; omega)]
    simp only [List.cons_append, List.nil_append, isCont, h2, decide_true, Bool.and_true]
    rw [if_pos, e]
    · rfl
    · -- the second byte is in the range that its lead byte allows
      by_cases e0 : a = 224
      · subst e0; simpa [Utf8.lo2, Utf8.hi2] using h1
      · by_cases e1 : a = 237
        · subst e1; simpa [Utf8.lo2, Utf8.hi2] using h1
        · simp only [e0, e1, if_false, Bool.and_eq_true, decide_eq_true_eq]; omega
  | @four _ b1 b2 b3 h0 h1 h2 h3 e =>
    have := Utf8.lo2_hi2 a
    rw [if_neg (by omega), if_neg (by simp; omega), if_neg (by simp; omega), if_pos (by simp; omega)]
    simp only [List.cons_append, List.nil_append, isCont, h2, h3, decide_true, Bool.and_true]
    rw [if_pos, e]
    · rfl
    · by_cases e0 : a = 240
      · subst e0; simpa [Utf8.lo2, Utf8.hi2] using h1
      · by_cases e1 : a = 244
        · subst e1; simpa [Utf8.lo2, Utf8.hi2] using h1
        · simp only [e0, e1, if_false, Bool.and_eq_true, decide_eq_true_eq]; omega

theorem decodeUtf8Go_skip (m rest : Bytes) : decodeUtf8Go m.length (m ++ rest) = decodeUtf8Go 0 rest := by
  induction m with
  | nil => rfl
  | cons a m ih => simpa [decodeUtf8Go] using ih

theorem decodeGo_seq {c : Nat} {bs : Bytes} (h : Utf8.Seq c bs) (rest : Bytes) :
    decodeUtf8Go 0 (bs ++ rest) = (decodeUtf8Go 0 rest).map (c :: ·) := by
  obtain ⟨a, m, rfl⟩ := List.exists_cons_of_ne_nil h.ne_nil
  rw [List.cons_append, decodeUtf8Go, utf8Seq_of_seq h]
  exact congrArg (Option.map (c :: ·)) (decodeUtf8Go_skip m rest)

/-- **C01**, UTF-8 round trip -/
theorem decodeUtf8_encodeUtf8 (l : List Nat) (h : ∀ c ∈ l, Scalar c) :
    decodeUtf8 (encodeUtf8 l) = some l := by
  unfold decodeUtf8 encodeUtf8
  induction l with
  | nil => rfl
  | cons c l ih =>
    simp only [List.flatMap_cons]
    rw [decodeGo_seq (encodeCp_seq (h c (by simp))), ih (fun x hx => h x (by simp [hx]))]
    rfl

theorem safeDecode_encodeUtf8 (l : List Nat) (h : ∀ c ∈ l, Scalar c) :
    safeDecode .utf8 (encodeUtf8 l) = l := by
  simp [safeDecode, decodeUtf8_encodeUtf8 l h]

theorem mem_encodeCp {c x : Nat} (h : Scalar c) (hx : x ∈ encodeCp c) : (c < 128 ∧ x = c) ∨ 128 ≤ x := by
  rcases (encodeCp_seq h).ascii_or_high with ⟨hc, e⟩ | hh
  · rw [e] at hx; exact .inl ⟨hc, by simpa using hx⟩
  · exact .inr (hh x hx)

theorem encodeCp_ne_nil (c : Nat) : encodeCp c ≠ [] := by
  unfold encodeCp; split <;> (try split) <;> (try split) <;> simp

end Baize.Multipart
