/-
The calculus behind Props/C12.lean: `Throws S x`, one rule per way the programs of Model/Errors.lean are built, and
the tactic `flow`, which applies the rules along a program as it is written.  With it every program of the model gets
its lemma, up to `entry_safe` for the driver's table.  Facts about sites are evaluated on the generated chains
(Gen/Errors.lean).

A stdlib call added to a model program needs its row in `keyTable`, and its site a row in `siteRoles`
(`Props/C12.lean`); a new entry point an arm of `entry` and a name in `entryNames` (`Model/Errors.lean`), its lemma
here, and its line in `entry_safe`, which follows the order of the arms.  When `flow` stops at a goal `Throws T (std …)`,
`Throws T (inner …)` or `Throws T (raiseAt …)`, the fact about that site (`siteIn`, `chainIn`, `raiseIn`) evaluated to
`false`, or the call has no row in `keyTable`: `decide` on the fact alone says which.
-/
import BaizeVerif.Model.Errors

namespace Baize.Errors
open Gen.Errors

/-- errno names an exception class of `os.stat` can carry (client-reachable ones) -/
def errnoOf (cls : String) : List String :=
  if cls == "OSError" then declaredErrno
  else if cls == "PermissionError" then ["EACCES"]
  else if cls == "FileNotFoundError" then ["ENOENT"]
  else if cls == "NotADirectoryError" then ["ENOTDIR"]
  else [""]

def fourxx (n : Nat) : Bool := 400 ≤ n && n < 500

/-- what the property lets out of an entry point: baize's HTTPException classes with the 4xx statuses that occur in
the sources, ClientDisconnect, the consumed-stream RuntimeError -/
def benignExcs : List Exc :=
  (httpStatus.map (·.1)).flatMap
      (fun c => (raisedStatuses.filter fourxx).map fun s => ({ cls := c, status := s } : Exc))
    ++ [{ cls := "ClientDisconnect" }, { cls := consumedCls }]

/-- what a stdlib call of this kind lets out when nothing around it catches -/
def rawExcs (kind : String) : List Exc := (declared kind).map fun c => ({ cls := c } : Exc)

def caughtIn (T : List Exc) : Caught → Bool
  | .swallowed => true
  | .thrown e => T.contains e

/-- whatever class of `classes` (with an errno it can carry) the call at this site raises, the handlers around it
swallow it or turn it into an exception of `T` -/
def siteIn (T : List Exc) (classes : List String) (chain : Chain) : Bool :=
  classes.all fun c => (errnoOf c).all fun en => caughtIn T (handle chain { cls := c, errno := en })

/-- `!e.undeclared`: `inner` re-throws an undeclared exception without asking the chain, so `S` must hold none -/
def chainIn (S T : List Exc) (chain : Chain) : Bool :=
  S.all fun e => !e.undeclared && caughtIn T (handle chain e)

/-- the exception `raiseAt s` hands to `handle` (a `let` there, which the model does not name) -/
def raiseExc (s : RaiseSite) : Exc :=
  { cls := if s.1 == "RuntimeError" && s.2.2.1 == consumedMsg then consumedCls else s.1, status := s.2.1 }

def raiseIn (T : List Exc) (s : RaiseSite) : Bool := caughtIn T (handle s.2.2.2 (raiseExc s))

/-- One row `(key, kind)` per `std β key kind _` in Model/Errors.lean.  `Adm` constrains these keys only: a call the
model gains needs its row here, or `flow` stops at it (the `by decide` of `(key, kind) ∈ keyTable` in `std_throws`
fails). -/
def keyTable : List (String × String) :=
  [("int", "int"), ("unquote", "cookieUnquote"), ("parsedate", "parsedate"), ("urlsplit", "urlsplit"),
   ("path_enc", "encodeLatin1"), ("path_dec", "decodeLenient"), ("query_enc", "encodeLatin1"),
   ("query_dec", "decodeLenient"), ("host_dec", "decodeLatin1"), ("qsl", "parseQsl"), ("qs_dec", "decodeLatin1"),
   ("port", "int"), ("dec", "decodeCharset"), ("loads", "jsonLoads"), ("benc", "encodeLatin1"),
   ("unpack", "unpack2"), ("int0", "int"), ("int1", "int"), ("int2", "int"), ("int3", "int"),
   ("range_dec", "decodeLatin1"), ("conv_int", "int"), ("conv_decimal", "decimal"), ("conv_uuid", "uuid"),
   ("conv_date", "dateCtor"), ("st1", "osStat"), ("st2", "osStat"), ("ims_parse", "parsedate"),
   ("ims_ts", "timestamp"), ("quote", "quote")]

def stepAdm : MpStep → Bool
  | .hdr (some c) => (declared "decodeCharset").contains c
  | .fld (some c) => (declared "decodeCharset").contains c
  | _ => true

/-- admissible behaviour: every stdlib call returns or raises a class of its declared raise-set (with an errno that
class can carry) -/
def admB (β : Beh) : Bool :=
  (keyTable.all fun kk =>
    match β.raised kk.1 with
    | none => true
    | some c => (declared kk.2).contains c && (errnoOf c).contains (β.get (kk.1 ++ ".errno")))
  && β.steps.all stepAdm

abbrev Adm (β : Beh) : Prop := admB β = true

/-- Only exceptions of `S` leave `x`.  A structure, not a `def`: no tactic of `flow` can unfold it into its `∀`, at
any transparency, so a goal `Throws S x` is met by one of the rules below or not at all. -/
structure Throws {α : Type} (S : List Exc) (x : M α) : Prop where
  out : ∀ e, x = Except.error e → e ∈ S

abbrev Safe {α : Type} (x : M α) : Prop := Throws benignExcs x

theorem benign_good : benignExcs.all (fun e => e.out.good && !e.undeclared) = true := by decide +kernel

theorem good_of_safe {x : M Val} (h : Safe x) : (outcome x).good = true := by
  cases hx : x with
  | ok v => cases v <;> rfl
  | error e =>
    have := List.all_eq_true.mp benign_good e (h.out e hx)
    simp only [Bool.and_eq_true] at this
    simpa [outcome] using this.1

theorem good_not_crash {o : Out} (h : o.good = true) : ∀ c, o ≠ .crash c := by
  intro c hc; subst hc; simp [Out.good] at h

theorem Throws.pure {α : Type} {S : List Exc} (a : α) : Throws S (Pure.pure a : M α) :=
  ⟨fun _ h => nomatch h⟩

theorem Throws.bind {α β : Type} {S : List Exc} {x : M α} {f : α → M β} (hx : Throws S x)
    (hf : ∀ a, Throws S (f a)) : Throws S (x >>= f) := by
  cases x with
  | ok a => exact hf a
  | error e => exact ⟨fun e' he => hx.out e' (by cases he; rfl)⟩

theorem Throws.ite {α : Type} {S : List Exc} {c : Prop} [Decidable c] {a b : M α} (ha : Throws S a)
    (hb : Throws S b) : Throws S (if c then a else b) := by
  split <;> assumption

theorem Throws.mono {α : Type} {S T : List Exc} {x : M α} (hx : Throws S x) (hST : S.all T.contains = true) :
    Throws T x :=
  ⟨fun e he => by simpa using List.all_eq_true.mp hST e (hx.out e he)⟩

/-- the last step at every kind of site: what `handle` made of the exception is swallowed or goes on -/
theorem Throws.caught {α : Type} {T : List Exc} (a : α) : ∀ {c : Caught}, caughtIn T c = true →
    Throws T (match c with | .swallowed => Pure.pure a | .thrown e => throw e : M α)
  | .swallowed, _ => Throws.pure a
  | .thrown _, hc => ⟨fun _ he => by cases he; simpa [caughtIn] using hc⟩

/-- the call raises only classes of `classes`: all declared ones, or (partial theorems) fewer -/
theorem stdWith_throws {raised : Option String} {errno kind : String} {chain : Chain} {T : List Exc}
    (classes : List String)
    (h : ∀ c, raised = some c → c ∈ declared kind ∧ c ∈ classes ∧ errno ∈ errnoOf c)
    (hok : siteIn T classes chain = true) : Throws T (stdWith raised errno kind chain) := by
  cases raised with
  | none => exact Throws.pure _
  | some c =>
    obtain ⟨hd, hc, he⟩ := h c rfl
    have hd' : (declared kind).contains c = true := by simpa using hd
    simp only [stdWith, hd', Bool.not_true, Bool.false_eq_true, if_false]
    exact Throws.caught false (List.all_eq_true.mp (List.all_eq_true.mp hok c hc) _ he)

theorem adm_key {β : Beh} (h : Adm β) {key kind : String} (hm : (key, kind) ∈ keyTable) {c : String}
    (hc : β.raised key = some c) : c ∈ declared kind ∧ β.get (key ++ ".errno") ∈ errnoOf c := by
  simpa [hc] using List.all_eq_true.mp (Bool.and_eq_true_iff.mp h).1 (key, kind) hm

theorem adm_steps {β : Beh} (h : Adm β) : β.steps.all stepAdm = true := (Bool.and_eq_true_iff.mp h).2

/-- `hex`: what the hypotheses of a partial theorem leave of the declared classes -/
theorem std_throws_on {β : Beh} (h : Adm β) {T : List Exc} {key kind : String} {chain : Chain}
    (classes : List String) (hm : (key, kind) ∈ keyTable)
    (hex : ∀ c, β.raised key = some c → c ∈ declared kind → c ∈ classes)
    (hok : siteIn T classes chain = true) : Throws T (std β key kind chain) :=
  stdWith_throws classes (fun c hc => have ⟨h1, h2⟩ := adm_key h hm hc; ⟨h1, hex c hc h1, h2⟩) hok

theorem std_throws {β : Beh} (h : Adm β) {T : List Exc} {key kind : String} {chain : Chain}
    (hm : (key, kind) ∈ keyTable) (hok : siteIn T (declared kind) chain = true) :
    Throws T (std β key kind chain) :=
  std_throws_on h _ hm (fun _ _ hd => hd) hok

theorem std_returns {β : Beh} {T : List Exc} {key kind : String} {chain : Chain} (h : β.raised key = none) :
    Throws T (std β key kind chain) := by
  unfold std stdWith; rw [h]; exact Throws.pure _

theorem inner_throws {α : Type} {S T : List Exc} {chain : Chain} {x : M α} (hx : Throws S x)
    (hc : chainIn S T chain = true) : Throws T (inner chain x) := by
  cases x with
  | ok a => exact Throws.pure _
  | error e =>
    have hb := List.all_eq_true.mp hc e (hx.out e rfl)
    simp only [Bool.and_eq_true, Bool.not_eq_true'] at hb
    simp only [inner, hb.1, Bool.false_eq_true, if_false]
    exact Throws.caught none hb.2

/-- `inner_throws` for `S = T`, chain first: `flow`'s `apply inner_same (by decide)` evaluates the chain and leaves the
callee as the goal -/
theorem inner_same {α : Type} {T : List Exc} {chain : Chain} {x : M α} (hc : chainIn T T chain = true)
    (hx : Throws T x) : Throws T (inner chain x) := inner_throws hx hc

theorem Throws.inner_nil {α : Type} {T : List Exc} {x : M α} (hx : Throws T x) : Throws T (inner [] x) := by
  cases x with
  | ok a => exact Throws.pure _
  | error e =>
    simp only [inner, handle]
    split <;> exact ⟨fun _ he => by cases he; exact hx.out _ rfl⟩

/-- Used as `passes (by decide)`.  The `isEmpty ||` is for the sites with no `try` around them (most): there `decide`
stops at `isEmpty` and does not run the benign exceptions through `handle []`, which the `nil` case does once, in
general.  When such a site gains a `try` in baize its generated chain is no longer `[]`, and the same `by decide`
evaluates `chainIn` on the new chain in full. -/
theorem passes {chain : Chain} (h : (chain.isEmpty || chainIn benignExcs benignExcs chain) = true) :
    chainIn benignExcs benignExcs chain = true := by
  cases chain with
  | cons _ _ => exact h
  | nil =>
    refine List.all_eq_true.2 fun e he => ?_
    have := List.all_eq_true.1 benign_good e he
    simp_all [handle, caughtIn]

theorem raiseAt_throws {T : List Exc} {s : RaiseSite} (h : raiseIn T s = true) : Throws T (raiseAt s) :=
  Throws.caught () h

-- `flow` tries its rules for calls and raises at default transparency.  Irreducible, so that one that does not fit
-- fails at once, without the unifier opening these four (a matter of cost: nothing fails without).
attribute [local irreducible] std stdWith inner raiseAt

/-- Derives `Throws T prog` by walking `prog` as it is written, one rule per way of building a program, tried in
this order: `pure`; a fact in the context; `>>=`; `if`; a stdlib call; a `raise`; a call of a sub-program — with no
`try` around it, of a callee whose lemma `Throws S callee` is in the context (any `S`), or of a program written out
at the call, which then has to let out `T` itself.  The structural rules run `with_reducible`, so no program is
unfolded to make one fit.  A site is a generated constant and the fact about it is evaluated, except that the chain
`[]` never is (`Throws.inner_nil`). -/
macro "flow" : tactic => `(tactic| repeat' (first
  | with_reducible exact Throws.pure _
  | with_reducible assumption
  | with_reducible refine Throws.bind ?_ fun _ => ?_
  | with_reducible apply Throws.ite
  | exact std_throws (by with_reducible assumption) (by decide) (by decide)
  | exact raiseAt_throws (by decide)
  | apply Throws.inner_nil
  | exact inner_throws (by with_reducible assumption) (by decide)
  | apply inner_same (by decide)))

theorem contentLength_safe (β : Beh) (h : Adm β) : Safe (contentLength β) := by
  unfold contentLength; flow

theorem cookies_safe (β : Beh) (h : Adm β) : Safe (cookies β) := by
  unfold cookies; flow

theorem date_safe (β : Beh) (h : Adm β) : Safe (date β) := by
  unfold date; flow

theorem urlFromText_throws (β : Beh) (h : Adm β) : Throws (rawExcs "urlsplit") (urlFromText β) := by
  unfold urlFromText; flow

theorem referrer_safe (β : Beh) (h : Adm β) : Safe (referrer β) := by
  have := urlFromText_throws β h
  unfold referrer; flow

/-- what `URL(environ=...)` / `URL(scope=...)` let out: the re-encoding and `urlsplit` failures -/
def rawUrl : List Exc := rawExcs "encodeLatin1" ++ rawExcs "urlsplit"

theorem urlFromEnviron_throws (β : Beh) (h : Adm β) : Throws rawUrl (urlFromEnviron β) := by
  unfold urlFromEnviron; flow

theorem urlFromScope_throws (β : Beh) (h : Adm β) : Throws rawUrl (urlFromScope β) := by
  unfold urlFromScope; flow

theorem url_safe (β : Beh) (h : Adm β) : Safe (urlW β) ∧ Safe (urlA β) := by
  have := urlFromEnviron_throws β h
  have := urlFromScope_throws β h
  unfold urlW urlA
  constructor <;> flow

theorem queryParams_safe (β : Beh) (h : Adm β) : Safe (queryParamsW β) ∧ Safe (queryParamsA β) := by
  unfold queryParamsW queryParamsA
  constructor <;> flow

theorem clientW_safe (β : Beh) (hport : β.raised "port" = none) : Safe (clientW β) := by
  unfold clientW
  have : Safe (std β "port" "int" wsgi_conn_client_int_0) := std_returns hport
  flow

theorem stream_safe (β : Beh) : Safe (streamW β) ∧ Safe (streamA β) := by
  unfold streamW streamA
  constructor <;> flow

theorem body_safe (β : Beh) : Safe (bodyW β) ∧ Safe (bodyA β) := by
  obtain ⟨_, _⟩ := stream_safe β
  unfold bodyW bodyA
  constructor <;> flow

theorem json_safe (β : Beh) (h : Adm β) : Safe (jsonW β) ∧ Safe (jsonA β) := by
  obtain ⟨_, _⟩ := body_safe β
  unfold jsonW jsonA
  constructor <;> flow

theorem safeDecode_safe (r : Option String) (hr : ∀ c, r = some c → c ∈ declared "decodeCharset") :
    Safe (safeDecode r) := by
  unfold safeDecode
  have : Safe (stdWith r "" "decodeCharset" mp_safe_decode_decodeCharset_0) :=
    stdWith_throws (declared "decodeCharset") (fun c hc => ⟨hr c hc, hr c hc,
      -- no class `bytes.decode` raises carries an errno
      (by decide : ∀ c ∈ declared "decodeCharset", "" ∈ errnoOf c) c (hr c hc)⟩) (by decide)
  have : Safe (stdWith none "" "decodeLatin1" mp_safe_decode_decodeLatin1_0) :=
    stdWith_throws [] (fun _ hc => nomatch hc) rfl
  flow

def mpSitesOk (s : MpSites) : Bool :=
  chainIn benignExcs benignExcs s.nextEvent && chainIn benignExcs benignExcs s.safeDecode
    && raiseIn benignExcs s.tooMany

theorem mpSitesOk_iff (s : MpSites) : mpSitesOk s = true ↔
    chainIn benignExcs benignExcs s.nextEvent = true ∧ chainIn benignExcs benignExcs s.safeDecode = true ∧
      raiseIn benignExcs s.tooMany = true := by
  simp only [mpSitesOk, Bool.and_eq_true, and_assoc]

theorem mpStep_safe (s : MpSites) (hs : mpSitesOk s = true) (st : MpStep) (hst : stepAdm st = true) :
    Safe (mpStep s st) := by
  obtain ⟨h1, h2, h3⟩ := (mpSitesOk_iff s).1 hs
  cases st <;> unfold mpStep
  case hdr r =>
    have := safeDecode_safe r fun c hc => by subst hc; simpa [stepAdm] using hst
    exact (inner_same h1 (by flow)).bind fun _ => Throws.pure _
  case fld r =>
    have := safeDecode_safe r fun c hc => by subst hc; simpa [stepAdm] using hst
    exact (inner_same h2 this).bind fun _ => Throws.pure _
  case nocolon | nocd => exact (inner_same h1 (by flow)).bind fun _ => Throws.pure _
  case toomany => exact raiseAt_throws h3

theorem parseStream_safe (s : MpSites) (hs : mpSitesOk s = true) (steps : List MpStep)
    (hst : steps.all stepAdm = true) : Safe (parseStream s steps) := by
  induction steps with
  | nil => exact Throws.pure _
  | cons st rest ih =>
    simp only [List.all_cons, Bool.and_eq_true] at hst
    exact (mpStep_safe s hs st hst.1).bind fun _ => ih hst.2

theorem mpSitesSync_ok : mpSitesOk mpSitesSync = true :=
  (mpSitesOk_iff _).2 ⟨passes (by decide), passes (by decide), by decide⟩

theorem mpSitesAsync_ok : mpSitesOk mpSitesAsync = true :=
  (mpSitesOk_iff _).2 ⟨passes (by decide), passes (by decide), by decide⟩

theorem form_safe (β : Beh) (h : Adm β) : Safe (formW β) ∧ Safe (formA β) := by
  obtain ⟨_, _⟩ := body_safe β
  obtain ⟨_, _⟩ := stream_safe β
  have := parseStream_safe mpSitesSync mpSitesSync_ok β.steps (adm_steps h)
  have := parseStream_safe mpSitesAsync mpSitesAsync_ok β.steps (adm_steps h)
  unfold formW formA
  constructor <;> flow

def rangeExcs : List Exc :=
  [{ cls := "MalformedRangeHeader", status := 400 }, { cls := "RangeNotSatisfiable", status := 416 }]

theorem parseRange_throws (β : Beh) (h : Adm β) : Throws rangeExcs (parseRange β) := by
  unfold parseRange; flow

theorem parseRangeEntry_safe (β : Beh) (h : Adm β) : Safe (parseRangeEntry β) := by
  unfold parseRangeEntry
  have := (parseRange_throws β h).mono (T := benignExcs) (by decide)
  flow

theorem fileCall_safe (β : Beh) (h : Adm β) : Safe (fileCallW β) ∧ Safe (fileCallA β) := by
  have := parseRange_throws β h
  unfold fileCallW fileCallA
  constructor <;> flow

/-- what the `to_python` of the matched route lets out -/
def rawConv : List Exc := rawExcs "int" ++ rawExcs "decimal" ++ rawExcs "uuid" ++ rawExcs "dateCtor"

theorem routeMatches_safe (β : Beh) (h : Adm β) : Safe (routeMatches β) := by
  unfold routeMatches
  refine (inner_throws (S := rawConv) ?_ (by decide)).bind fun _ => Throws.pure _
  flow

theorem router_safe (β : Beh) (h : Adm β) : Safe (routerW β) ∧ Safe (routerA β) := by
  have := routeMatches_safe β h
  unfold routerW routerA
  constructor <;> flow

theorem mount_safe (β : Beh) (h : Adm β) : Safe (mountW β) ∧ Safe (mountA β) := by
  unfold mountW mountA
  constructor <;> flow

/-- hypothesis of the partial theorems: the server process may search every directory it serves
(known finding `static-permission-denied`) -/
def NoPermissionError (β : Beh) : Prop :=
  β.raised "st1" ≠ some "PermissionError" ∧ β.raised "st2" ≠ some "PermissionError"

/-- hypothesis of the partial theorem on Pages: the redirect target can be written as a URL
(known finding `pages-redirect-unencodable-path`, shared with C07) -/
def PathEncodable (β : Beh) : Prop := β.raised "quote" = none

theorem checkPath_safe (β : Beh) (h : Adm β) (key : String) (hm : (key, "osStat") ∈ keyTable)
    (hp : β.raised key ≠ some "PermissionError") : Safe (checkPath β key) :=
  std_throws_on h ((declared "osStat").filter (· != "PermissionError")) hm
    (fun c hc hd => List.mem_filter.2 ⟨hd, bne_iff_ne.2 fun hcp => hp (hcp ▸ hc)⟩) (by decide)

theorem ifModifiedSince_safe (β : Beh) (h : Adm β) : Safe (ifModifiedSince β) := by
  unfold ifModifiedSince; flow

/-- a structure, where `mpSitesOk` is a `Bool`: the lemmas below take these facts one at a time, by name -/
structure StaticSites.Ok (s : StaticSites) : Prop where
  checkPath0 : chainIn benignExcs benignExcs s.checkPath0 = true
  fileResponse : chainIn benignExcs benignExcs s.fileResponse = true
  ifModifiedSince : chainIn benignExcs benignExcs s.ifModifiedSince = true
  notFound : raiseIn benignExcs s.notFound = true

theorem pagesRedirect_safe {urlChain redirectChain iriChain : Chain} {mkUrl : Beh → M Unit} {β : Beh}
    (hq : PathEncodable β) (hu : Safe (inner urlChain (mkUrl β)))
    (hr : chainIn benignExcs benignExcs redirectChain = true) (hi : chainIn benignExcs benignExcs iriChain = true) :
    Safe (pagesRedirect urlChain redirectChain iriChain mkUrl β) := by
  unfold pagesRedirect
  have : Safe (std β "quote" "quote" resp_iri_to_uri_quote_0) := std_returns hq
  have := inner_same hr (inner_same hi this)
  flow

section
variable {s : StaticSites} (hs : s.Ok) {fileCall : Beh → M Val} {β : Beh} (h : Adm β) (hf : Safe (fileCall β))
include hs h hf

theorem fileResponse_safe : Safe (fileResponse s fileCall β) := by
  unfold fileResponse
  have := inner_same hs.ifModifiedSince (ifModifiedSince_safe β h)
  flow

theorem filesCall_safe (hp : β.raised "st1" ≠ some "PermissionError") : Safe (filesCall s fileCall β) := by
  unfold filesCall
  have := inner_same hs.checkPath0 (checkPath_safe β h "st1" (by decide) hp)
  have := inner_same hs.fileResponse (fileResponse_safe hs h hf)
  have := raiseAt_throws hs.notFound
  flow

variable (hp : NoPermissionError β)
include hp

theorem pagesCall_safe {checkPath1 : Chain} (h1 : chainIn benignExcs benignExcs checkPath1 = true)
    {redirect : Beh → M Val} (hr : Safe (redirect β)) : Safe (pagesCall s checkPath1 fileCall redirect β) := by
  unfold pagesCall
  have := inner_same hs.checkPath0 (checkPath_safe β h "st1" (by decide) hp.1)
  have := inner_same h1 (checkPath_safe β h "st2" (by decide) hp.2)
  have := inner_same hs.fileResponse (fileResponse_safe hs h hf)
  have := raiseAt_throws hs.notFound
  flow

end

theorem filesSitesW_ok : filesSitesW.Ok := ⟨passes (by decide), passes (by decide), passes (by decide), by decide⟩
theorem filesSitesA_ok : filesSitesA.Ok := ⟨passes (by decide), passes (by decide), passes (by decide), by decide⟩
theorem pagesSitesW_ok : pagesSitesW.Ok := ⟨passes (by decide), passes (by decide), passes (by decide), by decide⟩
theorem pagesSitesA_ok : pagesSitesA.Ok := ⟨passes (by decide), passes (by decide), passes (by decide), by decide⟩

theorem files_safe (β : Beh) (h : Adm β) (hp : NoPermissionError β) : Safe (filesW β) ∧ Safe (filesA β) :=
  ⟨filesCall_safe filesSitesW_ok h (fileCall_safe β h).1 hp.1,
    filesCall_safe filesSitesA_ok h (fileCall_safe β h).2 hp.1⟩

theorem pages_safe (β : Beh) (h : Adm β) (hp : NoPermissionError β) (hq : PathEncodable β) :
    Safe (pagesW β) ∧ Safe (pagesA β) :=
  ⟨pagesCall_safe pagesSitesW_ok h (fileCall_safe β h).1 hp (passes (by decide))
      (pagesRedirect_safe hq (inner_throws (urlFromEnviron_throws β h) (by decide)) (passes (by decide))
        (passes (by decide))),
    pagesCall_safe pagesSitesA_ok h (fileCall_safe β h).2 hp (passes (by decide))
      (pagesRedirect_safe hq (inner_throws (urlFromScope_throws β h) (by decide)) (passes (by decide))
        (passes (by decide)))⟩

theorem safe_ite {c : Prop} [Decidable c] {p q : Beh → M Val} {β : Beh} (h : Safe (p β) ∧ Safe (q β)) :
    Safe ((if c then p else q) β) := by
  split
  · exact h.1
  · exact h.2

theorem entry_safe (β : Beh) (h : Adm β) (hport : β.raised "port" = none) (hp : NoPermissionError β)
    (hq : PathEncodable β) {name iface : String} {p : Beh → M Val} (he : entry name iface = some p) :
    Safe (p β) := by
  unfold entry at he
  split at he <;> cases he
  -- a line per name, in the order of the arms of `entry` (an arm with several names gives a goal for each)
  iterate 4 exact Throws.pure _  -- headers, accepted_types, accepts, content_type
  · exact contentLength_safe β h
  · exact cookies_safe β h
  · exact date_safe β h
  · exact referrer_safe β h
  · exact safe_ite (url_safe β h)
  · exact safe_ite (queryParams_safe β h)
  · exact safe_ite ⟨clientW_safe β hport, Throws.pure _⟩
  · exact safe_ite (body_safe β)
  · exact safe_ite (json_safe β h)
  · exact safe_ite (form_safe β h)
  · exact parseRangeEntry_safe β h
  · exact safe_ite (fileCall_safe β h)
  · exact safe_ite (router_safe β h)
  · exact safe_ite (mount_safe β h)  -- subpaths
  · exact safe_ite (mount_safe β h)  -- hosts
  · exact safe_ite (files_safe β h hp)
  · exact safe_ite (pages_safe β h hp hq)

end Baize.Errors
