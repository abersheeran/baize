/-
Well-formed UTF-8 byte sequences (Unicode table 3-7), independent of any model.

The models carry several transcriptions of the UTF-8 codec (one encoder per namespace, three
differently organised decoders).  What they share is said here once: `Seq c bs`, with the byte ranges
as hypotheses about variable bytes, and `seq_encode`: the usual division formulas produce such a
sequence.  A decoder lemma then only follows its own control flow on `Seq`'s four cases; no division
reaches it.
-/

namespace Baize.Utf8

/-- allowed range of the second byte after lead byte `b0` (three- and four-byte forms) -/
def lo2 (b0 : Nat) : Nat := if b0 = 224 then 160 else if b0 = 240 then 144 else 128
def hi2 (b0 : Nat) : Nat := if b0 = 237 then 159 else if b0 = 244 then 143 else 191

/-- `bs` is a well-formed UTF-8 sequence and `c` the code point it denotes -/
inductive Seq (c : Nat) : List Nat → Prop
  | one (h : c < 128) : Seq c [c]
  | two {b0 b1 : Nat} (h0 : 194 ≤ b0 ∧ b0 ≤ 223) (h1 : 128 ≤ b1 ∧ b1 ≤ 191)
      (e : c = (b0 - 192) * 64 + (b1 - 128)) : Seq c [b0, b1]
  | three {b0 b1 b2 : Nat} (h0 : 224 ≤ b0 ∧ b0 ≤ 239) (h1 : lo2 b0 ≤ b1 ∧ b1 ≤ hi2 b0)
      (h2 : 128 ≤ b2 ∧ b2 ≤ 191)
      (e : c = (b0 - 224) * 4096 + (b1 - 128) * 64 + (b2 - 128)) : Seq c [b0, b1, b2]
  | four {b0 b1 b2 b3 : Nat} (h0 : 240 ≤ b0 ∧ b0 ≤ 244) (h1 : lo2 b0 ≤ b1 ∧ b1 ≤ hi2 b0)
      (h2 : 128 ≤ b2 ∧ b2 ≤ 191) (h3 : 128 ≤ b3 ∧ b3 ≤ 191)
      (e : c = (b0 - 240) * 262144 + (b1 - 128) * 4096 + (b2 - 128) * 64 + (b3 - 128)) :
      Seq c [b0, b1, b2, b3]

/-- `chr(c).encode("utf-8")` for a scalar value -/
def encode (c : Nat) : List Nat :=
  if c < 128 then [c]
  else if c < 2048 then [192 + c / 64, 128 + c % 64]
  else if c < 65536 then [224 + c / 4096, 128 + c / 64 % 64, 128 + c % 64]
  else [240 + c / 262144, 128 + c / 4096 % 64, 128 + c / 64 % 64, 128 + c % 64]

theorem lo2_hi2 (b0 : Nat) : 128 ≤ lo2 b0 ∧ hi2 b0 ≤ 191 := by
  unfold lo2 hi2; repeat' split
  all_goals omega

theorem seq_encode {c : Nat} (hc : c < 1114112) (hs : c < 55296 ∨ 57343 < c) : Seq c (encode c) := by
  unfold encode
  split
  · exact .one ‹_›
  · split
    -- `192 + x - 192` is cancelled first: `omega` alone splits on every truncated subtraction
    · exact .two (by omega) (by omega) (by simp only [Nat.add_sub_cancel_left]; omega)
    · split
      · refine .three (by omega) ⟨?_, ?_⟩ (by omega) (by simp only [Nat.add_sub_cancel_left]; omega)
        · unfold lo2; repeat' split
          all_goals omega
        · unfold hi2; repeat' split
          all_goals omega
      · refine .four (by omega) ⟨?_, ?_⟩ (by omega) (by omega) (by simp only [Nat.add_sub_cancel_left]; omega)
        · unfold lo2; repeat' split
          all_goals omega
        · unfold hi2; repeat' split
          all_goals omega

theorem Seq.lt_256 {c : Nat} {bs : List Nat} (h : Seq c bs) : ∀ b ∈ bs, b < 256 := by
  cases h with
  | one h => simp; omega
  | two h0 h1 => simp; omega
  | @three b0 _ _ h0 h1 h2 => have := lo2_hi2 b0; simp; omega
  | @four b0 _ _ _ h0 h1 h2 h3 => have := lo2_hi2 b0; simp; omega

theorem Seq.ne_nil {c : Nat} {bs : List Nat} (h : Seq c bs) : bs ≠ [] := by
  cases h <;> simp

theorem Seq.ascii_or_high {c : Nat} {bs : List Nat} (h : Seq c bs) :
    (c < 128 ∧ bs = [c]) ∨ ∀ b ∈ bs, 128 ≤ b := by
  cases h with
  | one h => exact .inl ⟨h, rfl⟩
  | two h0 h1 => right; simp; omega
  | @three b0 _ _ h0 h1 h2 => have := lo2_hi2 b0; right; simp; omega
  | @four b0 _ _ _ h0 h1 h2 h3 => have := lo2_hi2 b0; right; simp; omega

end Baize.Utf8
