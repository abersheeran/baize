/-
For C16 and C13.  The generated tables enter through a few facts about the lists themselves; `translate_cases`
says what the translator does to one code point, and what is said of `quote` follows from it.  The transcribed
`_unquote` loop and the one-pass scanner take the same three steps at the head of a text.  Then `strip`, `pieces`
and `splitFirst` of the reader; the lemmas of `dictGet`/`dictSet` (their one home: `Headers`, `Gateway` and `Equiv`
use the same store); `setCookie`/`deleteCookie` in closed form.
-/
import BaizeVerif.Model.Cookie
import BaizeVerif.Lemmas.Text

namespace Baize.Cookie

/-- `translate_cases` as a Boolean, for `table_facts` -/
def shapeB (c : Nat) : Bool :=
  match translate c with
  | [x] => x == c && c != 92
  | [92, x] => x == c && c != 10 && !(48 ≤ c && c ≤ 51)
  | [92, a, b, d] => 48 ≤ a && a ≤ 51 && isOct b && isOct d && octVal a b d == c
  | _ => false

/-- printable ASCII other than `;` and `,` -/
def safeCp (d : Nat) : Bool := 0x20 ≤ d && d < 0x7f && d != 59 && d != 44

theorem legal_facts : ∀ c ∈ Gen.Cookie.legalChars,
    0x21 ≤ c ∧ c < 0x7f ∧ c ≠ 34 ∧ c ≠ 92 ∧ c ≠ 59 ∧ c ≠ 44 ∧ c ≠ 61 ∧ isSpace c = false := by
  decide +kernel

theorem extra_facts : ∀ c ∈ Gen.Cookie.unescapedExtra,
    0x20 ≤ c ∧ c < 0x7f ∧ c ≠ 34 ∧ c ≠ 92 ∧ c ≠ 59 ∧ c ≠ 44 := by
  decide

/-- The reader undoes a two-character escape by dropping the backslash, so the round trip needs every override
to be a backslash and the character itself; and the character must be none of `0`–`3`, or `\0`–`\3` before
two octal digits of the value would be read as an octal escape. -/
theorem override_facts : ∀ p ∈ Gen.Cookie.translatorOverrides,
    p.2 = [92, p.1] ∧ 0x20 ≤ p.1 ∧ p.1 < 0x7f ∧ p.1 ≠ 59 ∧ p.1 ≠ 44 ∧ ¬ (48 ≤ p.1 ∧ p.1 ≤ 51) := by
  decide

-- the statements below spell these generated values as literals; a changed one fails here first
-- `source_pinned` of `Props/C16.lean` asks `≤ 512` only (three octal digits can say no more); the round trip needs 256:
-- `octalAt` reads an escape back only when its first digit is 0–3
theorem bound_eq : Gen.Cookie.escapeBound = 256 := rfl
theorem quoteOpen_eq : Gen.Cookie.quoteOpen = [34] := rfl
theorem quoteClose_eq : Gen.Cookie.quoteClose = [34] := rfl
theorem pairSep_eq : Gen.Cookie.pairSep = [61] := rfl
theorem joiner_eq : Gen.Cookie.joiner = [59, 32] := rfl
theorem chunkSep_eq : chunkSep = 59 := rfl
theorem pairSepChar_eq : pairSepChar = 61 := rfl

theorem unescaped_facts {c : Nat} (h : isUnescaped c = true) :
    0x20 ≤ c ∧ c < 0x7f ∧ c ≠ 34 ∧ c ≠ 92 ∧ c ≠ 59 ∧ c ≠ 44 := by
  simp only [isUnescaped, isLegal, Bool.or_eq_true, List.contains_iff_mem] at h
  rcases h with h | h
  · have := legal_facts c h; omega
  · exact extra_facts c h

theorem lookupOverride_mem {c : Nat} {s : Str} (h : lookupOverride c = some s) :
    (c, s) ∈ Gen.Cookie.translatorOverrides := by
  obtain ⟨p, hp, rfl⟩ := Option.map_eq_some_iff.mp h
  have h1 : p.1 = c := by simpa using List.find?_some hp
  have h2 := List.mem_reverse.mp (List.mem_of_find?_eq_some hp)
  rw [← h1]; exact h2

theorem octal3_spec {n : Nat} (h : n < 256) : ∃ a b d, octal3 n = [a, b, d] ∧
    (48 ≤ a ∧ a ≤ 51) ∧ (48 ≤ b ∧ b ≤ 55) ∧ (48 ≤ d ∧ d ≤ 55) ∧ octVal a b d = n := by
  refine ⟨_, _, _, rfl, ?_⟩
  simp only [octVal]
  omega

theorem translate_cases (c : Nat) :
    (translate c = [c] ∧ c ≠ 92 ∧ (isUnescaped c = true ∨ 256 ≤ c)) ∨
    (translate c = [92, c] ∧ 0x20 ≤ c ∧ c < 0x7f ∧ c ≠ 59 ∧ c ≠ 44 ∧ ¬ (48 ≤ c ∧ c ≤ 51)) ∨
    (∃ a b d, translate c = [92, a, b, d] ∧
      (48 ≤ a ∧ a ≤ 51) ∧ (48 ≤ b ∧ b ≤ 55) ∧ (48 ≤ d ∧ d ≤ 55) ∧ octVal a b d = c) := by
  unfold translate
  cases h : lookupOverride c with
  | some s => exact Or.inr (Or.inl (override_facts (c, s) (lookupOverride_mem h)))
  | none =>
    rw [bound_eq]
    cases hu : isUnescaped c with
    | true => exact Or.inl ⟨by simp, (unescaped_facts hu).2.2.2.1, Or.inl rfl⟩
    | false =>
      by_cases hc : c < 256
      · obtain ⟨a, b, d, ho, hd⟩ := octal3_spec hc
        exact Or.inr (Or.inr ⟨a, b, d, by simp [hc, ho], hd⟩)
      · exact Or.inl ⟨by simp [hc], by omega, Or.inr (by omega)⟩

theorem translate_chars (c : Nat) :
    ∀ x ∈ translate c, (0x20 ≤ x ∧ x < 0x7f ∧ x ≠ 59 ∧ x ≠ 44) ∨ (x = c ∧ 256 ≤ c) := by
  intro x hx
  rcases translate_cases c with ⟨h, -, hu | hc⟩ | ⟨h, hp⟩ | ⟨a, b, d, h, hd⟩
    <;> rw [h] at hx <;> simp only [List.mem_cons, List.mem_nil_iff, or_false] at hx
  · have := unescaped_facts hu
    exact Or.inl (by omega)
  · exact Or.inr ⟨hx, hc⟩
  · exact Or.inl (by omega)
  · exact Or.inl (by omega)

theorem translate_safe : ∀ c, c < 256 → (translate c).all safeCp = true := by
  intro c hc
  simp only [List.all_eq_true, safeCp, Bool.and_eq_true, decide_eq_true_eq, bne_iff_ne, ne_eq]
  intro x hx
  have := translate_chars c x hx
  omega

theorem shapes : ∀ c, c < 256 → shapeB c = true := by
  intro c _
  unfold shapeB
  rcases translate_cases c with ⟨h, h92, -⟩ | ⟨h, hp⟩ | ⟨a, b, d, h, hd⟩ <;> rw [h]
  · simpa using h92
  · simp only [beq_self_eq_true, Bool.true_and, Bool.and_eq_true, bne_iff_ne, ne_eq, Bool.not_eq_true',
      Bool.and_eq_false_iff, decide_eq_false_iff_not]
    omega
  · simpa [isOct, and_assoc] using hd

theorem escaped_head {c : Nat} (hc : c < 256) (hu : isUnescaped c = false) :
    (translate c).head? = some 92 ∧ 2 ≤ (translate c).length := by
  rcases translate_cases c with ⟨_, -, hu' | hc'⟩ | ⟨h, _⟩ | ⟨a, b, d, h, _⟩
  · rw [hu] at hu'; cases hu'
  · omega
  · rw [h]; exact ⟨rfl, Nat.le_refl _⟩
  · rw [h]; exact ⟨rfl, by simp⟩

theorem octal_imp_quote {s : Str} (h : octalAt s = true) : quoteAt s = true := by
  unfold octalAt at h
  split at h
  · simp only [Bool.and_eq_true, decide_eq_true_eq] at h
    simp only [quoteAt, bne_iff_ne, ne_eq]
    omega
  · cases h

theorem not_octal_of_not_quote {s : Str} (h : quoteAt s = false) : octalAt s = false := by
  cases ho : octalAt s with
  | false => rfl
  | true => rw [octal_imp_quote ho] at h; cases h

theorem head_cases (s : Str) :
    quoteAt s = false ∨
    (∃ x rest, s = 92 :: x :: rest ∧ octalAt s = false ∧ x ≠ 10) ∨
    (∃ a b d rest, s = 92 :: a :: b :: d :: rest ∧ octalAt s = true) := by
  cases ho : octalAt s with
  | true =>
    unfold octalAt at ho
    split at ho
    · exact .inr (.inr ⟨_, _, _, _, rfl, rfl⟩)
    · cases ho
  | false =>
    cases hq : quoteAt s with
    | false => exact .inl rfl
    | true =>
      unfold quoteAt at hq
      split at hq
      · exact .inr (.inl ⟨_, _, rfl, rfl, by simpa using hq⟩)
      · cases hq

theorem search_pos {p : Str → Bool} {c : Nat} {cs : Str} (h : p (c :: cs) = true) :
    search p (c :: cs) = some 0 := by
  rw [search, if_pos h]

theorem search_neg {p : Str → Bool} {c : Nat} {cs : Str} (h : p (c :: cs) = false) :
    search p (c :: cs) = (search p cs).map (· + 1) := by
  rw [search, if_neg (by simp [h])]

theorem search_some {p : Str → Bool} {s : Str} {k : Nat} (h : search p s = some k) :
    k < s.length ∧ p (s.drop k) = true ∧ ∀ i, i < k → p (s.drop i) = false := by
  induction s generalizing k with
  | nil => cases h
  | cons c cs ih =>
    cases hp : p (c :: cs) with
    | true =>
      rw [search_pos hp] at h
      cases h
      exact ⟨by simp, hp, by omega⟩
    | false =>
      rw [search_neg hp] at h
      obtain ⟨k', hk', rfl⟩ := Option.map_eq_some_iff.mp h
      obtain ⟨h1, h2, h3⟩ := ih hk'
      refine ⟨by simpa using h1, h2, fun i hi => ?_⟩
      cases i with
      | zero => exact hp
      | succ i => exact h3 i (by omega)

theorem search_none {p : Str → Bool} (hp : p [] = false) {s : Str} (h : search p s = none) :
    ∀ i, p (s.drop i) = false := by
  induction s with
  | nil => intro i; simpa using hp
  | cons c cs ih =>
    cases hc : p (c :: cs) with
    | true => rw [search_pos hc] at h; cases h
    | false =>
      rw [search_neg hc, Option.map_eq_none_iff] at h
      intro i
      cases i with
      | zero => exact hc
      | succ i => exact ih h i

theorem scanAux_skip (n : Nat) (s : Str) : scanAux n s = scanAux 0 (s.drop n) := by
  induction n generalizing s with
  | zero => simp
  | succ n ih =>
    cases s with
    | nil => simp [scanAux]
    | cons c cs => simp [scanAux, ih]

theorem scan_octal {a b d : Nat} {rest : Str} (h : octalAt (92 :: a :: b :: d :: rest) = true) :
    scanAux 0 (92 :: a :: b :: d :: rest) = octVal a b d :: scanAux 0 rest := by
  rw [scanAux, if_pos h, scanAux_skip]
  rfl

theorem scan_quoted {x : Nat} {rest : Str} (ho : octalAt (92 :: x :: rest) = false) (hx : x ≠ 10) :
    scanAux 0 (92 :: x :: rest) = x :: scanAux 0 rest := by
  have hq : quoteAt (92 :: x :: rest) = true := by simpa [quoteAt] using hx
  rw [scanAux, if_neg (by simp [ho]), if_pos hq, scanAux_skip]
  rfl

theorem scan_plain {c : Nat} {rest : Str} (hq : quoteAt (c :: rest) = false) :
    scanAux 0 (c :: rest) = c :: scanAux 0 rest := by
  rw [scanAux, if_neg (by simp [not_octal_of_not_quote hq]), if_neg (by simp [hq])]

theorem scan_translate (c : Nat) (rest : Str) :
    scanAux 0 (translate c ++ rest) = c :: scanAux 0 rest := by
  rcases translate_cases c with ⟨h, h92, -⟩ | ⟨h, hp⟩ | ⟨a, b, d, h, ha, hb, hd, hv⟩ <;> rw [h]
  · exact scan_plain (by simp [quoteAt, h92])
  · refine scan_quoted ?_ (by omega)
    unfold octalAt
    split
    · rename_i heq
      simp only [List.cons.injEq, true_and] at heq
      simp only [Bool.and_eq_false_iff, decide_eq_false_iff_not]
      omega
    · rfl
  · rw [← hv]
    exact scan_octal (by simp [octalAt, isOct, ha, hb, hd])

theorem loop_octal (fuel : Nat) {a b d : Nat} {rest : Str} (h : octalAt (92 :: a :: b :: d :: rest) = true) :
    unquoteLoop (fuel + 1) (92 :: a :: b :: d :: rest) = octVal a b d :: unquoteLoop fuel rest := by
  simp [unquoteLoop, search_pos h, search_pos (octal_imp_quote h)]

theorem loop_quoted (fuel : Nat) {x : Nat} {rest : Str} (ho : octalAt (92 :: x :: rest) = false)
    (hx : x ≠ 10) : unquoteLoop (fuel + 1) (92 :: x :: rest) = x :: unquoteLoop fuel rest := by
  have hq : quoteAt (92 :: x :: rest) = true := by simpa [quoteAt] using hx
  rw [unquoteLoop, search_pos hq, search_neg ho]
  cases search octalAt (x :: rest) <;> simp

theorem loop_plain (fuel : Nat) {c : Nat} {rest : Str} (hq : quoteAt (c :: rest) = false) :
    unquoteLoop (fuel + 1) (c :: rest) = c :: unquoteLoop (fuel + 1) rest := by
  -- both matches lie one place further on than in `rest`, so this round does what a round on `rest` does
  rw [unquoteLoop, search_neg hq, search_neg (not_octal_of_not_quote hq), unquoteLoop]
  cases rest with
  | nil => simp [search]
  | cons e es =>
    cases search octalAt (e :: es) <;> cases search quoteAt (e :: es) <;> simp [apply_ite (List.cons c)]

theorem loop_eq_scan (fuel : Nat) : ∀ s : Str, s.length < fuel → unquoteLoop fuel s = scanAux 0 s := by
  induction fuel with
  | zero => intro s h; omega
  | succ fuel ih =>
    intro s
    -- a plain character costs no fuel (Python's round jumps over it to the next match), hence the inner induction
    induction s with
    | nil => intro _; rfl
    | cons c cs ihs =>
      intro hlen
      rcases head_cases (c :: cs) with hq | ⟨x, rest, h, ho, hx⟩ | ⟨a, b, d, rest, h, ho⟩
      · rw [loop_plain fuel hq, scan_plain hq, ihs (by simp at hlen; omega)]
      · rw [h] at ho hlen ⊢
        rw [loop_quoted fuel ho hx, scan_quoted ho hx, ih rest (by simp at hlen; omega)]
      · rw [h] at ho hlen ⊢
        rw [loop_octal fuel ho, scan_octal ho, ih rest (by simp at hlen; omega)]

theorem legalKey_spec {v : Str} (h : isLegalKey v = true) :
    v ≠ [] ∧ ∀ c ∈ v, c ∈ Gen.Cookie.legalChars := by
  simp only [isLegalKey, isLegal, Bool.and_eq_true, Bool.not_eq_true', List.all_eq_true,
    List.contains_iff_mem] at h
  refine ⟨?_, h.2⟩
  intro he
  simp [he] at h

theorem legalKey_no_sep {name : Str} (hn : isLegalKey name = true) : 59 ∉ name ∧ 61 ∉ name := by
  constructor <;> intro hm <;> have := legal_facts _ ((legalKey_spec hn).2 _ hm) <;> omega

theorem quote_cases (v : Str) :
    (isLegalKey v = true ∧ quote v = v) ∨
    (isLegalKey v = false ∧ quote v = 34 :: (v.flatMap translate ++ [34])) := by
  unfold quote
  cases h : isLegalKey v with
  | true => simp
  | false => simp [quoteOpen_eq, quoteClose_eq]

theorem quote_chars (v : Str) :
    ∀ x ∈ quote v, (0x20 ≤ x ∧ x < 0x7f ∧ x ≠ 59 ∧ x ≠ 44) ∨ (256 ≤ x ∧ x ∈ v) := by
  intro x hx
  rcases quote_cases v with ⟨hk, hq⟩ | ⟨_, hq⟩ <;> rw [hq] at hx
  · have := legal_facts x ((legalKey_spec hk).2 x hx)
    omega
  · simp only [List.mem_cons, List.mem_append, List.mem_nil_iff, or_false] at hx
    rcases hx with rfl | hx | rfl
    · omega
    · obtain ⟨c, hc, hxc⟩ := List.mem_flatMap.mp hx
      rcases translate_chars c x hxc with h | ⟨rfl, h⟩
      · exact Or.inl h
      · exact Or.inr ⟨h, hc⟩
    · omega

/-- whatever the code points of `v`, the quoted text stays inside its chunk of the `Cookie:` header (and of a
comma-joined header) -/
theorem quote_no_sep (v : Str) : 59 ∉ quote v ∧ 44 ∉ quote v := by
  constructor <;> intro h <;> rcases quote_chars v _ h with h | h <;> omega

/-- `quote_ascii` (C16.1a) with `≠ ;` and `≠ ,` added -/
theorem quote_ascii' (v : Str) (hv : ∀ c ∈ v, c < 256) : ∀ d ∈ quote v, 0x20 ≤ d ∧ d < 0x7f ∧ d ≠ 59 ∧ d ≠ 44 := by
  intro d hd
  rcases quote_chars v d hd with h | ⟨h, hm⟩
  · exact h
  · have := hv d hm
    omega

theorem quote_ne_nil (v : Str) : quote v ≠ [] := by
  rcases quote_cases v with ⟨hk, hq⟩ | ⟨_, hq⟩
  · rw [hq]; exact (legalKey_spec hk).1
  · rw [hq]; simp

def Trimmed (s : Str) : Prop :=
  (∀ c, s.head? = some c → isSpace c = false) ∧ (∀ c, s.getLast? = some c → isSpace c = false)

theorem legalKey_trimmed {v : Str} (h : isLegalKey v = true) : Trimmed v := by
  have hsp : ∀ c ∈ v, isSpace c = false := fun c hc => (legal_facts c ((legalKey_spec h).2 c hc)).2.2.2.2.2.2.2
  exact ⟨fun c hc => hsp c (List.mem_of_mem_head? hc), fun c hc => hsp c (List.mem_of_mem_getLast? hc)⟩

theorem quote_trimmed (v : Str) : Trimmed (quote v) := by
  rcases quote_cases v with ⟨hk, hq⟩ | ⟨_, hq⟩ <;> rw [hq]
  · exact legalKey_trimmed hk
  · rw [← List.cons_append, Trimmed, List.getLast?_concat]
    exact ⟨fun c hc => by cases hc; decide, fun c hc => by cases hc; decide⟩

theorem lstrip_eq (s : Str) : lstrip s = s.dropWhile isSpace := by
  induction s with
  | nil => rfl
  | cons c cs ih => rw [lstrip, List.dropWhile_cons, ih]

theorem strip_ws_trimmed (ws s : Str) (hws : ∀ c ∈ ws, isSpace c = true) (hs : Trimmed s) :
    strip (ws ++ s) = s := by
  simpa [strip, rstrip, lstrip_eq] using List.strip_pad isSpace (b := []) hws (by simp) hs.1 hs.2

theorem quote_strip (v : Str) : strip (quote v) = quote v :=
  strip_ws_trimmed [] _ (by simp) (quote_trimmed v)

theorem splitFirst_append (sep : Nat) (a b : Str) (h : sep ∉ a) :
    splitFirst sep (a ++ sep :: b) = some (a, b) := by
  induction a with
  | nil => simp [splitFirst]
  | cons x xs ih =>
    have hx : x ≠ sep := fun e => h (by simp [e])
    have hxs : sep ∉ xs := fun e => h (by simp [e])
    simp [splitFirst, hx, ih hxs]

theorem pieces_eq (sep : Nat) (s : Str) : pieces sep s = s.splitOn sep := by
  induction s with
  | nil => rfl
  | cons c r ih =>
    rw [List.splitOn_cons_eq_if_modifyHead, ← ih]
    simp only [pieces, splitOn]
    split <;> simp_all

theorem joinWith_eq (sep p : Str) (ps : List Str) : joinWith sep p ps = p ++ ps.flatMap (sep ++ ·) := by
  induction ps generalizing p with
  | nil => simp [joinWith]
  | cons q qs ih => simp [joinWith, ih]

theorem pieces_join (p : Str) (ps : List Str) (hp : 59 ∉ p) (hps : ∀ q ∈ ps, 59 ∉ q) :
    pieces 59 (joinWith [59, 32] p ps) = p :: ps.map (32 :: ·) := by
  rw [joinWith_eq, pieces_eq]
  induction ps generalizing p with
  | nil => simpa using List.splitOn_eq_singleton hp
  | cons q qs ih =>
    have hq : 59 ∉ 32 :: q := by simp [hps q (by simp)]
    rw [List.flatMap_cons, List.cons_append, List.cons_append, List.splitOn_append_cons_self_of_not_mem hp]
    exact congrArg (p :: ·) (ih (32 :: q) hq fun r hr => hps r (by simp [hr]))

/-! `dictGet`/`dictSet`, the insertion-ordered dict of `request.cookies`, are also the store of `Headers` and of the
gateways' variables; their lemmas live here whoever uses them.  `dictGet` is read in three ways: by its own
recursion against `dictSet` (`dictGet_set_same`); as `List.lookup` (`dictGet_eq_lookup`) where core has the lemma
wanted; as `find?` (`dictGet_find`) where it meets `filter` or a `find?`. -/

theorem dictGet_eq_lookup (d : List (Str × Str)) (k : Str) : dictGet d k = d.lookup k := by
  induction d with
  | nil => rfl
  | cons kv t ih =>
    obtain ⟨k', v'⟩ := kv
    rw [dictGet, List.lookup_cons, ih]
    by_cases h : k' = k
    · simp [h]
    · simp [h, beq_false_of_ne (Ne.symm h)]

theorem dictGet_mem {d : List (Str × Str)} {k v : Str} (h : dictGet d k = some v) : (k, v) ∈ d := by
  rw [dictGet_eq_lookup] at h
  obtain ⟨l₁, l₂, rfl, -⟩ := List.lookup_eq_some_iff.mp h
  simp

theorem mem_dictSet {d : List (Str × Str)} {k v : Str} {kv : Str × Str} (h : kv ∈ dictSet d k v) :
    kv ∈ d ∨ kv = (k, v) := by
  induction d with
  | nil => exact .inr (List.mem_singleton.mp h)
  | cons hd t ih =>
    rw [dictSet] at h
    split at h <;> rcases List.mem_cons.mp h with h | h
    · exact .inr h
    · exact .inl (List.mem_cons_of_mem _ h)
    · exact .inl (h ▸ List.mem_cons_self)
    · exact (ih h).imp_left (List.mem_cons_of_mem _)

theorem dictGet_set_same (d : List (Str × Str)) (k v : Str) : dictGet (dictSet d k v) k = some v := by
  induction d with
  | nil => simp [dictSet, dictGet]
  | cons kv t ih =>
    obtain ⟨k', v'⟩ := kv
    by_cases h : k' = k
    · simp [dictSet, dictGet, h]
    · simp [dictSet, dictGet, h, ih]

theorem dictGet_set_other (d : List (Str × Str)) (k k2 v : Str) (h : k2 ≠ k) :
    dictGet (dictSet d k2 v) k = dictGet d k := by
  induction d with
  | nil => simp [dictSet, dictGet, h]
  | cons kv t ih =>
    obtain ⟨k', v'⟩ := kv
    by_cases h1 : k' = k2
    · subst h1
      simp [dictSet, dictGet, h]
    · simp [dictSet, dictGet, h1, ih]

theorem foldl_addChunk_other (name : Str) (chunks : List Str) (d : List (Str × Str))
    (h : ∀ ch ∈ chunks, ∀ kv, chunkEntry ch = some kv → kv.1 ≠ name) :
    dictGet (chunks.foldl addChunk d) name = dictGet d name := by
  induction chunks generalizing d with
  | nil => rfl
  | cons ch rest ih =>
    rw [List.foldl_cons, ih _ fun c hc => h c (List.mem_cons_of_mem _ hc)]
    unfold addChunk
    cases he : chunkEntry ch with
    | none => rfl
    | some kv => exact dictGet_set_other d name kv.1 kv.2 (h ch List.mem_cons_self kv he)

theorem dictGet_find (l : List (Str × Str)) (k : Str) : dictGet l k = (l.find? fun kv => kv.1 == k).map (·.2) := by
  induction l with
  | nil => rfl
  | cons x xs ih =>
    obtain ⟨k', v'⟩ := x
    by_cases h : k' = k
    · simp [dictGet, h]
    · have hb : (k' == k) = false := by simpa using h
      simp [dictGet, h, hb, ih]

theorem dictGet_append (a b : List (Str × Str)) (k : Str) :
    dictGet (a ++ b) k = (dictGet a k).or (dictGet b k) := by
  simp only [dictGet_eq_lookup, List.lookup_append]

theorem dictGet_absent {d : List (Str × Str)} {k : Str} (h : ∀ kv ∈ d, kv.1 ≠ k) : dictGet d k = none := by
  rw [dictGet_eq_lookup, List.lookup_eq_none_iff]
  exact fun kv hkv => bne_iff_ne.mpr (h kv hkv).symm

theorem dictSet_absent {d : List (Str × Str)} {k : Str} (v : Str) (h : ∀ kv ∈ d, kv.1 ≠ k) :
    dictSet d k v = d ++ [(k, v)] := by
  induction d with
  | nil => rfl
  | cons x xs ih =>
    obtain ⟨k', v'⟩ := x
    have : k' ≠ k := h (k', v') (by simp)
    simp [dictSet, this, ih (fun kv hkv => h kv (by simp [hkv]))]

theorem filter_dictSet (q : Str → Bool) (d : List (Str × Str)) (k v : Str) :
    (dictSet d k v).filter (fun kv => q kv.1) =
      if q k then dictSet (d.filter fun kv => q kv.1) k v else d.filter fun kv => q kv.1 := by
  induction d with
  | nil => by_cases hq : q k = true <;> simp [dictSet, hq]
  | cons x xs ih =>
    obtain ⟨k', v'⟩ := x
    by_cases hk : k' = k
    · subst hk
      by_cases hq : q k' = true <;> simp [dictSet, hq]
    · by_cases hq : q k = true <;> by_cases hq' : q k' = true <;>
        simp [dictSet, hk, hq, hq', ih]

theorem dictGet_filter (q : Str → Bool) (d : List (Str × Str)) {k : Str} (hk : q k = true) :
    dictGet (d.filter fun kv => q kv.1) k = dictGet d k := by
  rw [dictGet_find, dictGet_find, List.find?_filter]
  congr 2
  funext kv
  by_cases h : kv.1 = k <;> simp [h, hk]

theorem setCookie_inRange {now e : Int} (h : minTimestamp ≤ now + e ∧ now + e ≤ maxTimestamp)
    (name value : Str) (maxAge : Int) (path domain : Str) (secure httponly : Bool) (samesite : Str) :
    setCookie now name value maxAge (some e) path domain secure httponly samesite =
      some ⟨name, value, some (now + e), maxAge, domain, path, httponly, secure, samesite⟩ := by
  simp [setCookie, h]

/-- `Gen.Cookie.deleteExpires` and `deleteMaxAge` are 0 by computation here (`Int.add_zero`, the literal `0` in the
record): a changed constant fails at this statement. -/
theorem deleteCookie_eq {now : Int} (h : minTimestamp ≤ now ∧ now ≤ maxTimestamp)
    (name path domain : Str) (secure httponly : Bool) (samesite : Str) :
    deleteCookie now name path domain secure httponly samesite =
      some ⟨name, [], some now, 0, domain, path, httponly, secure, samesite⟩ := by
  have he : now + Gen.Cookie.deleteExpires = now := Int.add_zero now
  have := setCookie_inRange (e := Gen.Cookie.deleteExpires) (he.symm ▸ h) name [] Gen.Cookie.deleteMaxAge
    path domain secure httponly samesite
  rw [he] at this
  exact this

/-- `self.max_age > -1` -/
theorem maxAge_emitted (n : Int) : n > Gen.Cookie.maxAgeBound ↔ 0 ≤ n := by
  rw [show Gen.Cookie.maxAgeBound = -1 from rfl]
  omega

theorem applyCOps_some {now : Int} {ops : List COp} {cs : List CookieRec} (h : applyCOps now ops = some cs) :
    ops.map (COp.record now) = cs.map some := by
  induction ops generalizing cs with
  | nil => cases h; rfl
  | cons o os ih =>
    rw [applyCOps] at h
    cases hr : o.record now with
    | none => simp [hr] at h
    | some c =>
      simp only [hr] at h
      obtain ⟨cs', hcs, rfl⟩ := Option.map_eq_some_iff.mp h
      simp [hr, ih hcs]

end Baize.Cookie
