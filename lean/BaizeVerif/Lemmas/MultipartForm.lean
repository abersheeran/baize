/-
Specification vocabulary for C01 / C15 (the encoder side: what a well-formed
multipart body is, what its parts denote) and the decoder-level step lemmas:
one `next_event()` call on a buffer that holds a prefix of the remaining
well-formed stream.
-/
import BaizeVerif.Lemmas.MultipartSearch
import BaizeVerif.Lemmas.MultipartDecoder

namespace Baize.Multipart

/-- one part of a form: its raw header block (lines joined by CRLF, without the
terminating blank line), its content, and the event the header block denotes
(`Field name headers` or `File name filename headers`) -/
structure Part where
  hdr : Bytes
  content : Bytes
  ev : Ev

/-- what follows `--boundary` after the preamble / after a part's content -/
def renderTail (b : Bytes) : List Part → Bytes → Bytes
  | [], epi => 45 :: 45 :: epi
  | p :: ps, epi =>
    13 :: 10 :: (p.hdr ++ 13 :: 10 :: 13 :: 10 :: (p.content ++ 13 :: 10 :: (marker b ++ renderTail b ps epi)))

/-- the encoded body: optional preamble (followed by CRLF), then for every part
`--boundary CRLF headers CRLF CRLF content CRLF`, then `--boundary--` and `epi`
(`epi` is whatever follows the closing delimiter: normally CRLF and an epilogue) -/
def encode (b pre : Bytes) (parts : List Part) (epi : Bytes) : Bytes :=
  (if pre = [] then [] else pre ++ [13, 10]) ++ (marker b ++ renderTail b parts epi)

theorem renderTail_tailOK (b : Bytes) (ps : List Part) (epi : Bytes) : TailOK (renderTail b ps epi) := by
  cases ps with
  | nil => exact Or.inr ⟨epi, rfl⟩
  | cons p ps => exact Or.inl ⟨_, rfl⟩

def IsPartEv : Ev → Prop
  | .field _ _ => True
  | .file _ _ _ => True
  | _ => False

structure PartOK (b : Bytes) (cs : Charset) (p : Part) : Prop where
  hdr : HdrOK p.hdr
  free : Free (marker b) p.content
  denotes : headerEvent cs p.hdr = p.ev
  isPart : IsPartEv p.ev

/-- the stream that remains when the decoder waits for the header block of `p` -/
def streamHdr (b : Bytes) (slack : Bytes) (p : Part) (ps : List Part) (epi : Bytes) : Bytes :=
  slack ++ p.hdr ++ 13 :: 10 :: 13 :: 10 :: (p.content ++ 13 :: 10 :: (marker b ++ renderTail b ps epi))

/-- the stream that remains inside the content of a part, `c` being what is left of it -/
def streamData (b : Bytes) (c : Bytes) (ps : List Part) (epi : Bytes) : Bytes :=
  c ++ 13 :: 10 :: (marker b ++ renderTail b ps epi)

/-- state of the decoder after a delimiter followed by `ps` has been consumed -/
def AfterDelim (b : Bytes) (ps : List Part) (epi : Bytes) (d' : Dec) (rest : Bytes) : Prop :=
  match ps with
  | [] => d'.st = .epilogue
  | p :: ps' => d'.st = .part ∧ ∃ slack, (slack = [] ∨ slack = [10]) ∧ d'.buf ++ rest = streamHdr b slack p ps' epi

theorem after_delim {b : Bytes} {ps : List Part} {epi t1 rest : Bytes} {n : Nat} {f : Bool}
    (ht : t1 ++ rest = renderTail b ps epi) (ham : afterMarker t1 = some (n, f)) (d : Dec) :
    AfterDelim b ps epi { d with st := if f then .epilogue else .part, buf := t1.drop n } rest := by
  cases ps with
  | nil =>
    have := afterMarker_last (epi := epi) ht ham
    subst this
    simp [AfterDelim]
  | cons p ps' =>
    obtain ⟨hf, hcase⟩ := afterMarker_more (R := _) ht ham
    subst hf
    refine ⟨by simp, ?_⟩
    rcases hcase with ⟨hn, hdrop⟩ | ⟨hn, ht1, hrest⟩
    · exact ⟨[], Or.inl rfl, by subst hn; simpa [streamHdr] using hdrop⟩
    · refine ⟨[10], Or.inr rfl, ?_⟩
      subst hn; subst ht1
      simp [streamHdr, hrest]

theorem step_preamble {b pre epi rest : Bytes} {parts : List Part} {cs : Charset} {d : Dec}
    (hno : NoLB (marker b)) (hfree : Free (marker b) pre) (hst : d.st = .preamble)
    (h : d.buf ++ rest = encode b pre parts epi) :
    (rawEvent b cs d = (d, .needData) ∧ rest ≠ []) ∨
    (∃ d', rawEvent b cs d = (d', .preamble pre) ∧ AfterDelim b parts epi d' rest) := by
  have htail := renderTail_tailOK b parts epi
  have hmk : marker b ≠ [] := by simp [marker]
  unfold rawEvent
  simp only [hst]
  unfold evPreamble
  by_cases hpre : pre = []
  · subst hpre
    have h' : d.buf ++ rest = marker b ++ renderTail b parts epi := by simpa [encode] using h
    rcases preSearch_empty_spec hmk hno htail h' with ⟨hs, hr⟩ | ⟨t1, n, f, hb, ht, ham, hs⟩
    · left; rw [hs]; exact ⟨rfl, hr⟩
    · right
      rw [hs]
      have hdrop : d.buf.drop ((marker b).length + n) = t1.drop n := by
        rw [hb, ← List.drop_drop, List.drop_left]
      simp only [hdrop, List.take_zero]
      exact ⟨_, rfl, after_delim ht ham d⟩
  · have h' : d.buf ++ rest = pre ++ 13 :: 10 :: (marker b ++ renderTail b parts epi) := by
      simpa [encode, hpre] using h
    rcases delimSearch_spec (o := true) hmk hno hfree htail h' with ⟨hs, _, hr⟩ | ⟨t1, n, f, e, htake, hdrop, ht, ham, hs⟩
    · left; rw [hs]; exact ⟨rfl, hr⟩
    · right
      rw [hs]
      simp only [htake, hdrop]
      exact ⟨_, rfl, after_delim ht ham d⟩

/-- a stray LF in front of a header block (left over from the delimiter's CRLF
when the CR was the last byte of a chunk) does not change what the block denotes -/
theorem headerEvent_slack (cs : Charset) (x : Nat) (r : Bytes) (h32 : x ≠ 32) (h9 : x ≠ 9) :
    headerEvent cs (10 :: x :: r) = headerEvent cs (x :: r) := by
  -- the LF is not a continuation (`x` is neither space nor TAB), and the empty line it ends is dropped
  have hsub : subContinuation (10 :: x :: r) = 10 :: subContinuation (x :: r) := subContGo_lf x r h32 h9
  have : parseHeaderLines cs (10 :: x :: r) = parseHeaderLines cs (x :: r) := by
    unfold parseHeaderLines
    rw [hsub]
    have : splitLines (10 :: subContinuation (x :: r)) = [] :: splitLines (subContinuation (x :: r)) := by
      simp [splitLines, splitLinesGo]
    rw [this]
    simp [stripBy]
  unfold headerEvent
  rw [this]

theorem step_part {b epi rest slack : Bytes} {p : Part} {ps : List Part} {cs : Charset} {d : Dec}
    (hs : slack = [] ∨ slack = [10]) (hp : PartOK b cs p) (hst : d.st = .part)
    (h : d.buf ++ rest = streamHdr b slack p ps epi) :
    (rawEvent b cs d = (d, .needData) ∧ rest ≠ []) ∨
    (∃ d', rawEvent b cs d = (d', p.ev) ∧ d'.st = .data ∧ d'.buf ++ rest = streamData b p.content ps epi) := by
  unfold rawEvent
  simp only [hst]
  unfold evPart
  rcases blankLineSearch_spec hs hp.hdr h with ⟨hn, hr⟩ | ⟨r1, hb, hr1, hfound⟩
  · left; rw [hn]; exact ⟨rfl, hr⟩
  · right
    rw [hfound]
    have hb' : d.buf = (slack ++ p.hdr) ++ ([13, 10, 13, 10] ++ r1) := by simpa using hb
    have htake : d.buf.take (slack ++ p.hdr).length = slack ++ p.hdr := by rw [hb', List.take_left]
    have hdrop : d.buf.drop ((slack ++ p.hdr).length + 4) = r1 := by
      rw [hb', ← List.drop_drop, List.drop_left]; rfl
    have hev : headerEvent cs (slack ++ p.hdr) = p.ev := by
      rcases hs with rfl | rfl
      · simpa using hp.denotes
      · obtain ⟨⟨x, r, hx, _, h32, h9⟩, _, _⟩ := hp.hdr
        rw [← hp.denotes, hx]
        exact headerEvent_slack cs x r h32 h9
    simp only [htake, hdrop, hev]
    rw [if_neg fun he => by have := hp.isPart; rw [he] at this; exact this]
    exact ⟨_, rfl, rfl, by simpa [streamData] using hr1⟩

theorem take_drop_of_append_eq {α : Type} {a b c d : List α} (h : a ++ b = c ++ d) {i : Nat}
    (hia : i ≤ a.length) (hic : i ≤ c.length) :
    a.take i = c.take i ∧ a.drop i ++ b = c.drop i ++ d := by
  constructor
  · have := congrArg (List.take i) h
    rwa [List.take_append_of_le_length hia, List.take_append_of_le_length hic] at this
  · have := congrArg (List.drop i) h
    rwa [List.drop_append_of_le_length hia, List.drop_append_of_le_length hic] at this

theorem step_data {b epi rest c : Bytes} {ps : List Part} {cs : Charset} {d : Dec}
    (hno : NoLB (marker b)) (hfree : Free (marker b) c) (hst : d.st = .data)
    (h : d.buf ++ rest = streamData b c ps epi) :
    (rawEvent b cs d = (d, .needData) ∧ rest ≠ []) ∨
    (∃ i, i ≤ c.length ∧
      rawEvent b cs d = ({ d with buf := d.buf.drop i }, .data (c.take i) true) ∧
      d.buf.drop i ++ rest = streamData b (c.drop i) ps epi) ∨
    (∃ d', rawEvent b cs d = (d', .data c false) ∧ AfterDelim b ps epi d' rest) := by
  unfold rawEvent
  simp only [hst]
  unfold evData
  rw [dataSearch_eq]
  rcases delimSearch_spec (o := false) (by simp [marker]) hno hfree (renderTail_tailOK b ps epi) h with
    ⟨hs, hic, hr⟩ | ⟨t1, n, f, e, htake, hdrop, ht, ham, hs⟩
  · rw [hs]
    simp only
    by_cases h0 : holdBack (marker b) d.buf = 0
    · left; rw [if_pos h0]; exact ⟨rfl, hr⟩
    · right; left
      rw [if_neg h0]
      obtain ⟨htk, hdr⟩ := take_drop_of_append_eq h (holdBack_le _ _) hic
      exact ⟨holdBack (marker b) d.buf, hic, by rw [htk, hst], by simpa [streamData] using hdr⟩
  · right; right
    rw [hs]
    simp only [htake, hdrop]
    exact ⟨_, rfl, after_delim ht ham d⟩

end Baize.Multipart
