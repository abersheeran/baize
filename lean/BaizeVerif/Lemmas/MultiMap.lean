/-
Lemmas for C17.  The model (`Model/MultiMap.lean`) keeps a dict and a pair list; every operation
keeps them consistent (`Inv`) and acts on the pair list as `Spec.Step` (`Lemmas/MultiMapSpec.lean`)
says: `step_spec`, `run_spec`.  Then the query-string codec: UTF-8, `quote_plus`/`unquote`,
`urlencode`/`parse_qsl` read their own output back.

The codec sections (from "UTF-8" on) have a twin in `Lemmas/Url.lean`, under the same headings:
`Model/Url.lean` transcribes the same `urllib.parse` functions a second time, organised differently,
so each file follows the control flow of its own model; what does not depend on it is in
`Lemmas/Utf8Seq.lean`.  The lemmas about one character or byte correspond, under the same names up to
those of the model functions (`utf8Enc_seq` / `utf8EncodeChar_seq`).  Those about whole strings are cut
differently: here an `…_isSome` iff says when an encoder answers and one lemma gives the round trip
with the characters of the output (`quotePlus_spec`); there `…_scalar` (one direction), the round trip
and the characters each stand alone.
-/
import BaizeVerif.Lemmas.MultiMapSpec
import BaizeVerif.Lemmas.Utf8Seq

namespace Baize.MultiMap
open Spec

/-! ### dict primitives -/

theorem dGet_dSet (d : Pairs) (k v k' : Nat) :
    dGet (dSet d k v) k' = if k' = k then some v else dGet d k' := by
  induction d with
  | nil => simp [dSet, dGet, eq_comm]
  | cons p r ih => grind [dSet, dGet]

theorem mem_keys_dSet (d : Pairs) (k v x : Nat) :
    x ∈ keysOf (dSet d k v) ↔ x = k ∨ x ∈ keysOf d := by
  induction d with
  | nil => simp [dSet, keysOf]
  | cons p r ih => grind [dSet, keysOf]

theorem nodup_dSet (d : Pairs) (k v : Nat) (h : (keysOf d).Nodup) : (keysOf (dSet d k v)).Nodup := by
  induction d with
  | nil => simp [dSet, keysOf]
  | cons p r ih => grind [dSet, keysOf, mem_keys_dSet, List.nodup_cons]

theorem dGet_dDel (d : Pairs) (k k' : Nat) :
    dGet (dDel d k) k' = if k' = k then none else dGet d k' := by
  induction d with
  | nil => simp [dDel, dGet]
  | cons p r ih => grind [dDel, dGet]

theorem nodup_dDel (d : Pairs) (k : Nat) (h : (keysOf d).Nodup) : (keysOf (dDel d k)).Nodup :=
  List.Nodup.sublist (List.Sublist.map _ List.filter_sublist) h

theorem dGet_none_iff (d : Pairs) (k : Nat) : dGet d k = none ↔ k ∉ keysOf d := by
  induction d with
  | nil => simp [dGet, keysOf]
  | cons p r ih => grind [dGet, keysOf]

/-! ### values and last value of a key -/

theorem values_cons (p : Nat × Nat) (l : Pairs) (k : Nat) :
    values (p :: l) k = if p.1 = k then p.2 :: values l k else values l k := by
  by_cases h : p.1 = k <;> simp [values, h]

theorem has_cons (p : Nat × Nat) (l : Pairs) (k : Nat) : has (p :: l) k ↔ p.1 = k ∨ has l k := by
  simp [has, eq_comm]

theorem values_append (l m : Pairs) (k : Nat) : values (l ++ m) k = values l k ++ values m k := by
  simp [values]

theorem values_without (l : Pairs) (k k' : Nat) :
    values (without l k) k' = if k' = k then [] else values l k' := by
  induction l with
  | nil => simp [without, values]
  | cons p r ih =>
    simp only [without, List.filter_cons] at ih ⊢
    split <;> grind [values_cons]

theorem values_map_same (k : Nat) (vs : List Nat) (k' : Nat) :
    values (vs.map fun v => (k, v)) k' = if k' = k then vs else [] := by
  induction vs with
  | nil => simp [values]
  | cons v vs ih => grind [values_cons]

theorem values_nil_iff (l : Pairs) (k : Nat) : values l k = [] ↔ ¬ has l k := by
  induction l with
  | nil => simp [values, has]
  | cons p r ih => grind [values_cons, has_cons]

theorem last_none_iff (l : Pairs) (k : Nat) : last l k = none ↔ ¬ has l k := by
  rw [last, List.getLast?_eq_none_iff, values_nil_iff]

theorem without_of_not_has (l : Pairs) (k : Nat) (h : ¬ has l k) : without l k = l :=
  List.filter_eq_self.mpr fun p hp => by
    simpa using fun e : p.1 = k => h (e ▸ List.mem_map_of_mem (f := (·.1)) hp)

theorem any_key_iff (l : Pairs) (k : Nat) : (l.any fun p => p.1 == k) = true ↔ has l k := by
  simp [has]

theorem values_replaceFirst (k v : Nat) (l : Pairs) (k' : Nat) (h : has l k) :
    values (replaceFirst k v l) k' = if k' = k then [v] else values l k' := by
  induction l with
  | nil => simp [has] at h
  | cons p r ih =>
    rw [has_cons] at h
    simp only [replaceFirst]
    split <;> grind [values_cons, values_without]

theorem last_append_single (l : Pairs) (k v k' : Nat) :
    last (l ++ [(k, v)]) k' = if k' = k then some v else last l k' := by
  unfold last
  rw [values_append, values_cons]
  by_cases h : k' = k <;> simp [h, values, Ne.symm]

theorem last_setlist (l : Pairs) (k : Nat) (vs : List Nat) (k' : Nat) :
    last (without l k ++ vs.map fun v => (k, v)) k' = if k' = k then vs.getLast? else last l k' := by
  unfold last
  rw [values_append, values_without, values_map_same]
  by_cases h : k' = k <;> simp [h]

theorem last_without (l : Pairs) (k k' : Nat) :
    last (without l k) k' = if k' = k then none else last l k' := by
  simpa using last_setlist l k [] k'

theorem last_assign (l : Pairs) (k v k' : Nat) :
    last (assign l k v) k' = if k' = k then some v else last l k' := by
  unfold assign
  split
  · rename_i h
    unfold last
    rw [values_replaceFirst k v l k' ((any_key_iff l k).mp h)]
    by_cases h2 : k' = k <;> simp [h2]
  · exact last_append_single l k v k'

/-! ### index surgery of `__setitem__`

`indexesOf` counts from an offset, so the inductions run over the list behind a prefix `pre` already
done: the offset is `pre.length`. -/

theorem any_eq_indexesOf (k : Nat) (l : Pairs) (i : Nat) :
    (l.any fun p => p.1 == k) = !(indexesOf k l i).isEmpty := by
  induction l generalizing i with
  | nil => rfl
  | cons p r ih =>
    rw [indexesOf]
    by_cases h : p.1 = k <;> simp [h, ih (i + 1)]

theorem surgery_append (f : Nat) (kv : Nat × Nat) (a b : List Nat) (l : Pairs) :
    surgery f kv (a ++ b) l = surgery f kv b (surgery f kv a l) := by
  induction a generalizing l with
  | nil => simp [surgery]
  | cons i is ih => simp [surgery, ih]

/-- when the index to keep lies inside the prefix, every pair of `k` behind it is deleted -/
theorem surgery_erase (f : Nat) (kv : Nat × Nat) (k : Nat) (pre l : Pairs) (hf : f < pre.length) :
    surgery f kv (indexesOf k l pre.length).reverse (pre ++ l) = pre ++ without l k := by
  induction l generalizing pre with
  | nil => simp [indexesOf, surgery, without]
  | cons p r ih =>
    have ih' := ih (pre ++ [p]) (by simp; omega)
    simp only [List.length_append, List.length_singleton, List.append_assoc, List.singleton_append] at ih'
    rw [indexesOf]
    by_cases h : p.1 = k
    · have hne : pre.length ≠ f := by omega
      simp [h, surgery_append, ih', surgery, hne, without, List.eraseIdx_append_of_length_le]
    · simp [h, ih', without]

theorem surgery_replace (k v : Nat) (pre l : Pairs) (f : Nat) (rest : List Nat)
    (h : indexesOf k l pre.length = f :: rest) :
    surgery f (k, v) (indexesOf k l pre.length).reverse (pre ++ l) = pre ++ replaceFirst k v l := by
  induction l generalizing pre with
  | nil => simp [indexesOf] at h
  | cons p r ih =>
    rw [indexesOf] at h ⊢
    rw [replaceFirst]
    by_cases hp : p.1 = k
    · simp only [hp, if_true, List.cons.injEq] at h ⊢
      obtain ⟨rfl, _⟩ := h
      have := surgery_erase pre.length (k, v) k (pre ++ [p]) r (by simp)
      simp only [List.length_append, List.length_singleton, List.append_assoc, List.singleton_append] at this
      simp [surgery_append, this, surgery, List.set_append_right]
    · simp only [hp, if_false] at h ⊢
      have := ih (pre ++ [p]) (by simpa using h)
      simpa using this

theorem setitem_list (s : State) (k v : Nat) : (setitem s k v).list = assign s.list k v := by
  have hr := surgery_replace k v [] s.list
  simp only [List.length_nil, List.nil_append] at hr
  unfold setitem assign
  rw [any_eq_indexesOf k s.list 0]
  cases h : indexesOf k s.list 0 with
  | nil => rfl
  | cons f rest => rw [h] at hr; exact hr f rest rfl

theorem setitem_dict (s : State) (k v : Nat) : (setitem s k v).dict = dSet s.dict k v := rfl

/-! ### operations: invariant and refinement -/

theorem inv_empty : Inv { dict := [], list := [] } := by
  simp [Inv, keysOf, dGet, last, values]

theorem inv_setitem {s : State} (k v : Nat) (h : Inv s) : Inv (setitem s k v) :=
  ⟨nodup_dSet _ _ _ h.1, fun k' => by rw [setitem_dict, setitem_list, dGet_dSet, last_assign, h.2 k']⟩

theorem inv_append {s : State} (k v : Nat) (h : Inv s) : Inv (append s k v) :=
  ⟨nodup_dSet _ _ _ h.1, fun k' => by simp only [append]; rw [dGet_dSet, last_append_single, h.2 k']⟩

/-- `__delitem__` in one piece: deleting an absent key from the dict changes nothing -/
theorem delitem_eq (s : State) (k : Nat) :
    delitem s k =
      (⟨dDel s.dict k, without s.list k⟩, if (dGet s.dict k).isSome then .none else .keyError) := by
  unfold delitem
  cases h : dGet s.dict k with
  | some _ => rfl
  | none =>
    -- `dDel` is `without` on the dict, and the keys of the dict are what `has` speaks of
    have : dDel s.dict k = s.dict := without_of_not_has s.dict k ((dGet_none_iff s.dict k).mp h)
    simp [this, without]

theorem inv_delitem {s : State} (k : Nat) (h : Inv s) : Inv (delitem s k).1 := by
  rw [delitem_eq]
  exact ⟨nodup_dDel _ _ h.1, fun k' => by rw [dGet_dDel, last_without, h.2 k']⟩

theorem not_has_of_get_none {s : State} (h : Inv s) {k : Nat} (hk : dGet s.dict k = none) :
    ¬ has s.list k := by
  rw [h.2 k] at hk
  exact (last_none_iff _ _).mp hk

theorem setlist_spec {s : State} (k : Nat) (vs : List Nat) (h : Inv s) :
    Inv (setlist s k vs).1 ∧ Spec.Step s.list (.setlist k vs) (setlist s k vs).1.list (setlist s k vs).2 := by
  unfold setlist
  cases hv : vs.getLast? with
  | some lastv =>
    refine ⟨⟨nodup_dSet _ _ _ h.1, fun k' => ?_⟩, rfl, rfl⟩
    have := last_setlist s.list k vs k'
    unfold without at this
    dsimp only
    rw [dGet_dSet, this, hv, h.2 k']
  | none =>
    obtain rfl : vs = [] := List.getLast?_eq_none_iff.mp hv
    cases hd : dGet s.dict k with
    | none =>
      simp only [contains, getitem, hd, Spec.Step, List.map_nil, List.append_nil]
      exact ⟨h, (without_of_not_has _ _ (not_has_of_get_none h hd)).symm, rfl⟩
    | some b =>
      simp only [contains, getitem, hd, Spec.Step, List.map_nil, List.append_nil]
      exact ⟨inv_delitem k h, by simp [delitem_eq, hd]⟩

theorem pop_spec {s : State} (k : Nat) (d : Option Nat) (h : Inv s) :
    Inv (pop s k d).1 ∧
      Spec.Step s.list (match d with | none => .pop k | some x => .popD k x) (pop s k d).1.list (pop s k d).2 := by
  unfold pop getitem
  cases hd : dGet s.dict k with
  | none => cases d <;> simp [Spec.Step, ← h.2 k, hd, h]
  | some v =>
    have hi := inv_delitem k h
    rw [delitem_eq] at hi
    cases d <;> simpa [Spec.Step, ← h.2 k, hd, delitem_eq] using hi

theorem list_nil_of_dict_nil {s : State} (h : Inv s) (hd : s.dict = []) : s.list = [] := by
  cases hl : s.list with
  | nil => rfl
  | cons p r =>
    have := h.2 p.1
    rw [hd, hl] at this
    exact absurd ((last_none_iff _ _).mp this.symm) (by simp [has])

theorem popitem_nil {s : State} (hd : s.dict = []) : popitem s = (s, .keyError) := by
  unfold popitem; rw [hd]

theorem popitem_cons {s : State} {k b : Nat} {rest : Pairs} (hd : s.dict = (k, b) :: rest) :
    popitem s = ((delitem s k).1, .item k b) := by
  unfold popitem
  simp [hd, getitem, dGet, delitem_eq]

theorem popitem_spec {s : State} (h : Inv s) :
    Inv (popitem s).1 ∧ Spec.Step s.list .popitem (popitem s).1.list (popitem s).2 := by
  cases hd : s.dict with
  | nil =>
    have hl := list_nil_of_dict_nil h hd
    rw [popitem_nil hd]
    exact ⟨h, .inl ⟨hl, hl, rfl⟩⟩
  | cons p rest =>
    rw [popitem_cons (k := p.1) (b := p.2) hd]
    exact ⟨inv_delitem _ h, .inr ⟨_, _, by rw [← h.2, hd]; simp [dGet], by rw [delitem_eq], rfl⟩⟩

theorem setdefault_spec {s : State} (k d : Nat) (h : Inv s) :
    Inv (setdefault s k d).1 ∧
      Spec.Step s.list (.setdefault k d) (setdefault s k d).1.list (setdefault s k d).2 := by
  unfold setdefault getitem
  simp only [Spec.Step, ← h.2 k]
  cases hd : dGet s.dict k with
  | some v => exact ⟨h, rfl, rfl⟩
  | none =>
    refine ⟨inv_setitem k d h, ?_, rfl⟩
    have hn := not_has_of_get_none h hd
    rw [← any_key_iff] at hn
    simp [setitem_list, assign, hn]

theorem assignAll_spec {s : State} (ps : Pairs) (h : Inv s) :
    Inv (assignAll s ps) ∧ (assignAll s ps).list = Spec.assignAll s.list ps := by
  induction ps generalizing s with
  | nil => exact ⟨h, rfl⟩
  | cons p r ih =>
    have := ih (inv_setitem p.1 p.2 h)
    rwa [setitem_list] at this

theorem clearLoop_spec (n : Nat) {s : State} (h : Inv s) (hn : s.dict.length < n) :
    clearLoop n s = { dict := [], list := [] } := by
  induction n generalizing s with
  | zero => omega
  | succ n ih =>
    unfold clearLoop
    cases hd : s.dict with
    | nil =>
      simp only [popitem_nil hd, if_true]
      obtain ⟨d, l⟩ := s
      rw [show d = [] from hd, show l = [] from list_nil_of_dict_nil h hd]
    | cons p rest =>
      simp only [popitem_cons (k := p.1) (b := p.2) hd, reduceCtorEq, if_false]
      apply ih (inv_delitem _ h)
      have := List.length_filter_le (fun q : Nat × Nat => q.1 != p.1) rest
      simp only [delitem_eq, hd, dDel, List.filter_cons, bne_self_eq_false, Bool.false_eq_true, if_false]
      rw [hd] at hn
      simp only [List.length_cons] at hn
      omega

theorem clear_spec {s : State} (h : Inv s) : clear s = { dict := [], list := [] } :=
  clearLoop_spec _ h (Nat.lt_succ_self _)

theorem dictOf_eq (ps : Pairs) : dictOf ps = (mk ps).dict := rfl

theorem step_spec {s : State} (op : Op) (h : Inv s) :
    Inv (step s op).1 ∧ Spec.Step s.list op (step s op).1.list (step s op).2 := by
  cases op with
  | setitem k v => exact ⟨inv_setitem k v h, setitem_list s k v, rfl⟩
  | delitem k => exact ⟨inv_delitem k h, by rw [step, delitem_eq]; exact ⟨rfl, by rw [h.2 k]⟩⟩
  | append k v => exact ⟨inv_append k v h, rfl, rfl⟩
  | setlist k vs => exact setlist_spec k vs h
  | poplist k => exact ⟨inv_delitem k h, by simp [step, poplist, delitem_eq], rfl⟩
  | pop k => exact pop_spec k none h
  | popD k d => exact pop_spec k (some d) h
  | popitem => exact popitem_spec h
  | setdefault k d => exact setdefault_spec k d h
  | updatePairs ps | updateMapping ps | updateMulti ps | updateKw ps =>
    exact ⟨(assignAll_spec _ h).1, (assignAll_spec _ h).2, rfl⟩
  | clear =>
    simp only [step, Spec.Step, clear_spec h]
    exact ⟨inv_empty, trivial, trivial⟩

/-! ### constructors -/

theorem foldl_dSet_inv (items : Pairs) (d acc : Pairs) (h : Inv { dict := d, list := acc }) :
    Inv { dict := items.foldl (fun d p => dSet d p.1 p.2) d, list := acc ++ items } := by
  induction items generalizing d acc with
  | nil => simpa using h
  | cons p r ih =>
    have h1 := inv_append p.1 p.2 h
    simp only [append] at h1
    have h2 := ih _ _ h1
    simpa [List.append_assoc] using h2

theorem mk_inv (items : Pairs) : Inv (mk items) := by
  have := foldl_dSet_inv items [] [] inv_empty
  simpa [mk, dictOf] using this

theorem init_list (raw : Raw) : (init raw).list = Spec.initial raw := by
  cases raw <;> rfl

/-! ### sequences -/

theorem run_spec {s : State} (ops : List Op) (h : Inv s) :
    Inv (run s ops).1 ∧ Spec.Run s.list ops (run s ops).1.list (run s ops).2 := by
  induction ops generalizing s with
  | nil => exact ⟨h, rfl, rfl⟩
  | cons op ops ih =>
    have h1 := step_spec op h
    have h2 := ih h1.1
    exact ⟨h2.1, _, _, _, h1.2, h2.2, rfl⟩

/-! ### views -/

theorem mem_distinct (l : List Nat) (x : Nat) : x ∈ Spec.distinct l ↔ x ∈ l := by
  induction l with
  | nil => simp [Spec.distinct]
  | cons a r ih =>
    simp only [Spec.distinct, List.mem_cons, List.mem_filter, ih, bne_iff_ne, ne_eq]
    by_cases h : x = a <;> simp [h]

theorem nodup_distinct (l : List Nat) : (Spec.distinct l).Nodup := by
  induction l with
  | nil => simp [Spec.distinct]
  | cons a r ih =>
    simp only [Spec.distinct, List.nodup_cons, List.mem_filter, bne_self_eq_false,
      Bool.false_eq_true, and_false, not_false_eq_true, true_and]
    exact List.Nodup.sublist List.filter_sublist ih

theorem mem_keys_iff {s : State} (h : Inv s) (k : Nat) : k ∈ keys s ↔ k ∈ s.list.map (·.1) := by
  have := dGet_none_iff s.dict k
  rw [h.2 k, last_none_iff, has] at this
  exact (Decidable.not_iff_not.mp this).symm

theorem contains_iff (s : State) (k : Nat) : contains s k = true ↔ k ∈ keys s := by
  rw [contains, getitem, Option.isSome_iff_ne_none, Ne, dGet_none_iff, Classical.not_not]; rfl

theorem keys_perm {s : State} (h : Inv s) : (keys s).Perm (Spec.distinct (s.list.map (·.1))) := by
  have hk : (keys s).Nodup := h.1
  rw [List.perm_ext_iff_of_nodup hk (nodup_distinct _)]
  intro a
  rw [mem_distinct]
  exact mem_keys_iff h a

/-! ### `==` -/

theorem removeFirst_eq {α} [DecidableEq α] (x : α) (l : List α) :
    removeFirst x l = if x ∈ l then some (l.erase x) else none := by
  induction l with
  | nil => rfl
  | cons y r ih =>
    rw [removeFirst, ih, List.erase_cons]
    by_cases hy : y = x
    · simp [hy]
    · by_cases hx : x ∈ r <;> simp [hy, hx, Ne.symm hy]

theorem eqLoop_iff {α} [DecidableEq α] (xs rest : List α) :
    eqLoop xs rest = true ↔ ∃ extra, (xs ++ extra).Perm rest := by
  induction xs generalizing rest with
  | nil => exact ⟨fun _ => ⟨rest, .refl _⟩, fun _ => rfl⟩
  | cons x xs ih =>
    simp only [eqLoop, removeFirst_eq, List.cons_append, List.cons_perm_iff_perm_erase, exists_and_left]
    by_cases hx : x ∈ rest
    · simp [hx, ih]
    · simp [hx]

theorem eqLists_iff {α} [DecidableEq α] (a b : List α) : eqLists a b = true ↔ a.Perm b := by
  unfold eqLists
  by_cases hl : a.length = b.length
  · simp only [hl, bne_self_eq_false, Bool.false_eq_true, if_false, eqLoop_iff]
    refine ⟨fun ⟨extra, hp⟩ => ?_, fun hp => ⟨[], by simpa using hp⟩⟩
    have := hp.length_eq
    rw [List.length_append] at this
    obtain rfl : extra = [] := List.eq_nil_of_length_eq_zero (by omega)
    simpa using hp
  · simp only [bne_iff_ne, ne_eq, hl, not_false_eq_true, if_true, Bool.false_eq_true, false_iff]
    exact fun hp => hl hp.length_eq

/-! ### UTF-8 -/

/-- in the form of the hypotheses of `Utf8.seq_encode` -/
theorem scalar_iff {c : Nat} : Scalar c ↔ c < 1114112 ∧ (c < 55296 ∨ 57343 < c) := by
  unfold Scalar; omega

theorem utf8Enc_eq (c : Nat) : utf8Enc c = if Scalar c then some (Utf8.encode c) else none := by
  unfold utf8Enc Utf8.encode
  by_cases h1 : c < 0x80
  · rw [if_pos h1, if_pos h1, if_pos (scalar_iff.mpr (by omega))]
  rw [if_neg h1, if_neg h1]
  by_cases h2 : c < 0x800
  · rw [if_pos h2, if_pos h2, if_pos (scalar_iff.mpr (by omega))]
  rw [if_neg h2, if_neg h2]
  by_cases h3 : c < 0x10000
  · rw [if_pos h3, if_pos h3]
    by_cases hs : 0xD800 ≤ c ∧ c < 0xE000
    · rw [if_pos hs, if_neg (by rw [scalar_iff]; omega)]
    · rw [if_neg hs, if_pos (scalar_iff.mpr (by omega))]
  rw [if_neg h3, if_neg h3]
  by_cases h4 : c < 0x110000
  · rw [if_pos h4, if_pos (scalar_iff.mpr (by omega))]
  · rw [if_neg h4, if_neg (by rw [scalar_iff]; omega)]

theorem utf8Enc_isSome_iff (c : Nat) : (utf8Enc c).isSome ↔ Scalar c := by
  rw [utf8Enc_eq]; split <;> simp [*]

theorem utf8Enc_seq {c : Nat} {bs : List Nat} (h : utf8Enc c = some bs) : Utf8.Seq c bs := by
  rw [utf8Enc_eq] at h
  split at h
  · rename_i hc
    cases h
    exact Utf8.seq_encode (scalar_iff.mp hc).1 (scalar_iff.mp hc).2
  · cases h

theorem dec_ascii (b : Nat) (rest : List Nat) (h : b < 0x80) :
    utf8Dec none (b :: rest) = b :: utf8Dec none rest := by
  simp [utf8Dec, decStart, h]

theorem dec_lead (b : Nat) (p : Pending) (rest : List Nat) (hb : ¬ b < 0x80) (hl : lead b = some p) :
    utf8Dec none (b :: rest) = utf8Dec (some p) rest := by
  simp [utf8Dec, decStart, hb, hl]

theorem dec_last (acc lo hi b : Nat) (rest : List Nat) (h : lo ≤ b ∧ b ≤ hi) :
    utf8Dec (some ⟨acc, 1, lo, hi⟩) (b :: rest) = (acc * 64 + (b - 0x80)) :: utf8Dec none rest := by
  simp [utf8Dec, h]

theorem dec_more (acc n lo hi b : Nat) (rest : List Nat) (h : lo ≤ b ∧ b ≤ hi) :
    utf8Dec (some ⟨acc, n + 2, lo, hi⟩) (b :: rest) =
      utf8Dec (some ⟨acc * 64 + (b - 0x80), n + 1, 0x80, 0xBF⟩) rest := by
  simp [utf8Dec, h]

/-! the decoder state after a lead byte, with the second-byte range of Unicode table 3-7 -/

theorem lead_two {b : Nat} (h : 194 ≤ b ∧ b ≤ 223) : lead b = some ⟨b - 192, 1, 128, 191⟩ := by
  simp [lead, h]

theorem lead_three {b : Nat} (h : 224 ≤ b ∧ b ≤ 239) :
    lead b = some ⟨b - 224, 2, Utf8.lo2 b, Utf8.hi2 b⟩ := by
  by_cases e0 : b = 224
  · subst e0; rfl
  · by_cases e1 : b = 237
    · subst e1; rfl
    · have h1 : ¬ b ≤ 223 := by omega
      have h2 : 225 ≤ b := by omega
      have h3 : b ≠ 240 ∧ b ≠ 244 := by omega
      simp [lead, Utf8.lo2, Utf8.hi2, e0, e1, h1, h2, h3, h.2]

theorem lead_four {b : Nat} (h : 240 ≤ b ∧ b ≤ 244) :
    lead b = some ⟨b - 240, 3, Utf8.lo2 b, Utf8.hi2 b⟩ := by
  by_cases e0 : b = 240
  · subst e0; rfl
  · by_cases e1 : b = 244
    · subst e1; rfl
    · have h1 : ¬ b ≤ 223 ∧ ¬ b ≤ 239 := by omega
      have h2 : 241 ≤ b ∧ b ≤ 243 := by omega
      have h3 : b ≠ 224 ∧ b ≠ 237 := by omega
      simp [lead, Utf8.lo2, Utf8.hi2, e0, e1, h1, h2, h3]

theorem utf8Dec_seq {c : Nat} {bs : List Nat} (h : Utf8.Seq c bs) (rest : List Nat) :
    utf8Dec none (bs ++ rest) = c :: utf8Dec none rest := by
  cases h with
  | one h => exact dec_ascii c rest h
  | two h0 h1 e =>
    simp only [List.cons_append, List.nil_append]
    rw [dec_lead _ _ _ (by omega) (lead_two h0), dec_last _ _ _ _ _ h1, e]
  | three h0 h1 h2 e =>
    simp only [List.cons_append, List.nil_append]
    rw [dec_lead _ _ _ (by omega) (lead_three h0), dec_more _ 0 _ _ _ _ h1, dec_last _ _ _ _ _ h2]
    simp only [List.cons.injEq, and_true]; omega
  | four h0 h1 h2 h3 e =>
    simp only [List.cons_append, List.nil_append]
    rw [dec_lead _ _ _ (by omega) (lead_four h0), dec_more _ 1 _ _ _ _ h1, dec_more _ 0 _ _ _ _ h2,
      dec_last _ _ _ _ _ h3]
    simp only [List.cons.injEq, and_true]; omega

theorem utf8EncStr_isSome (s : Str) : (utf8EncStr s).isSome ↔ ValidStr s := by
  induction s with
  | nil => simp [utf8EncStr, ValidStr]
  | cons c r ih =>
    rw [ValidStr, List.forall_mem_cons, ← ValidStr, ← ih, ← utf8Enc_isSome_iff, utf8EncStr]
    cases utf8Enc c <;> cases utf8EncStr r <;> simp

theorem utf8EncStr_dec {s : Str} {bs : List Nat} (h : utf8EncStr s = some bs) :
    (∀ b ∈ bs, b < 256) ∧ utf8Dec none bs = s := by
  induction s generalizing bs with
  | nil => cases h; exact ⟨by simp, rfl⟩
  | cons c r ih =>
    unfold utf8EncStr at h
    cases h1 : utf8Enc c <;> cases h2 : utf8EncStr r <;> simp only [h1, h2, reduceCtorEq] at h
    cases h
    obtain ⟨hlt, hdec⟩ := ih h2
    refine ⟨fun b hm => ?_, by rw [utf8Dec_seq (utf8Enc_seq h1), hdec]⟩
    rcases List.mem_append.mp hm with hb | hb
    · exact (utf8Enc_seq h1).lt_256 b hb
    · exact hlt b hb

/-! ### quote_plus / unquote -/


/-- `'%{:02X}'` writes `0-9A-F` -/
theorem hexDigit_range (n : Nat) (h : n < 16) :
    (48 ≤ hexDigit n ∧ hexDigit n ≤ 57) ∨ (65 ≤ hexDigit n ∧ hexDigit n ≤ 70) := by
  unfold hexDigit; split <;> omega

theorem hexDigit_spec (n : Nat) (h : n < 16) : isHex (hexDigit n) = true ∧ hexVal (hexDigit n) = n := by
  simp only [isHex, hexVal, Bool.or_eq_true, Bool.and_eq_true, decide_eq_true_eq]
  unfold hexDigit
  split
  · rw [if_pos (by omega)]; omega
  · rw [if_neg (by omega), if_pos (by omega)]; omega

/-- the safe sets `quote_plus` uses: none, or just the space -/
def SafeOk (safe : List Nat) : Prop := ∀ c ∈ safe, c = 32

/-- characters `quote` can produce: ASCII, never `&`, `=`, `+` -/
def QChar (c : Nat) : Prop := c < 128 ∧ c ≠ 38 ∧ c ≠ 61 ∧ c ≠ 43

/-- a byte `quote` leaves as it is -/
theorem safe_facts {safe : List Nat} (hsafe : SafeOk safe) {b : Nat}
    (h : (alwaysSafe b || safe.contains b) = true) : QChar b ∧ b ≠ 37 := by
  simp only [alwaysSafe, Bool.or_eq_true, Bool.and_eq_true, decide_eq_true_eq, beq_iff_eq,
    List.contains_iff_mem] at h
  unfold QChar
  rcases h with h | h
  · omega
  · have := hsafe b h; omega

theorem quoteByte_chars (safe : List Nat) (hsafe : SafeOk safe) (b : Nat) (hb : b < 256) :
    ∀ c ∈ quoteByte safe b, QChar c := by
  unfold quoteByte
  split
  · rename_i h
    intro c hc
    rw [List.mem_singleton.mp hc]
    exact (safe_facts hsafe h).1
  · unfold QChar
    have h1 := hexDigit_range (b / 16) (by omega)
    have h2 := hexDigit_range (b % 16) (by omega)
    intro c hc
    simp only [List.mem_cons, List.not_mem_nil, or_false] at hc
    rcases hc with rfl | rfl | rfl <;> omega

theorem unquoteFrom_quoteByte (safe : List Nat) (hsafe : SafeOk safe) (b : Nat) (hb : b < 256)
    (rest : Str) :
    unquoteFrom 0 (quoteByte safe b ++ rest) = b :: unquoteFrom 0 rest := by
  unfold quoteByte
  split
  · rename_i h
    simp [unquoteFrom, (safe_facts hsafe h).2]
  · have h1 := hexDigit_spec (b / 16) (by omega)
    have h2 := hexDigit_spec (b % 16) (by omega)
    simp only [List.cons_append, List.nil_append, unquoteFrom, if_true, hexPair, h1.1, h2.1,
      Bool.and_self, h1.2, h2.2]
    simp only [List.cons.injEq, and_true]
    omega

theorem unquoteBytes_quote (safe : List Nat) (hsafe : SafeOk safe) (bs : List Nat)
    (hb : ∀ b ∈ bs, b < 256) : unquoteBytes (bs.flatMap (quoteByte safe)) = bs := by
  unfold unquoteBytes
  induction bs with
  | nil => simp [unquoteFrom]
  | cons b r ih =>
    simp only [List.flatMap_cons]
    rw [unquoteFrom_quoteByte safe hsafe b (hb b (by simp)), ih (fun x hx => hb x (by simp [hx]))]

theorem unquoteGo_ascii (run s : Str) (h : ∀ c ∈ s, c < 128) :
    unquoteGo run s = utf8Dec none (unquoteBytes (run ++ s)) := by
  induction s generalizing run with
  | nil => simp [unquoteGo]
  | cons c r ih =>
    have hc : c < 128 := h c (by simp)
    simp only [unquoteGo, hc, if_true]
    rw [ih _ (fun x hx => h x (by simp [hx]))]
    simp

theorem plusToSpace_id (u : Str) (h : ∀ c ∈ u, c ≠ 43) : plusToSpace u = u :=
  (List.map_congr_left fun c hc => if_neg (h c hc)).trans (List.map_id u)

theorem plusToSpace_map (u : Str) (h : ∀ c ∈ u, c ≠ 43) :
    plusToSpace (u.map fun c => if c = 32 then 43 else c) = u := by
  rw [plusToSpace, List.map_map]
  refine (List.map_congr_left fun c hc => ?_).trans (List.map_id u)
  have := h c hc
  by_cases h32 : c = 32 <;> simp [h32, this]

theorem quotePlus_isSome (s : Str) : (quotePlus s).isSome ↔ ValidStr s := by
  rw [← utf8EncStr_isSome]
  unfold quotePlus quote
  split <;> simp

theorem quotePlus_spec {s t : Str} (h : quotePlus s = some t) :
    (∀ c ∈ t, c ≠ 38 ∧ c ≠ 61) ∧ unquote (plusToSpace t) = s := by
  obtain ⟨bs, henc⟩ : ∃ bs, utf8EncStr s = some bs := by
    cases henc : utf8EncStr s with
    | none => simp [quotePlus, quote, henc] at h
    | some bs => exact ⟨bs, rfl⟩
  obtain ⟨hlt, hdec⟩ := utf8EncStr_dec henc
  -- with either safe set the quoted bytes are `QChar`s and `unquote` reads them back
  have key : ∀ safe, SafeOk safe →
      (∀ c ∈ bs.flatMap (quoteByte safe), QChar c) ∧ unquote (bs.flatMap (quoteByte safe)) = s := by
    intro safe hsafe
    have hch : ∀ c ∈ bs.flatMap (quoteByte safe), QChar c := fun c hc => by
      obtain ⟨b, hbm, hcb⟩ := List.mem_flatMap.mp hc
      exact quoteByte_chars safe hsafe b (hlt b hbm) c hcb
    refine ⟨hch, ?_⟩
    unfold unquote
    rw [unquoteGo_ascii [] _ (fun c hc => (hch c hc).1), List.nil_append, unquoteBytes_quote safe hsafe bs hlt, hdec]
  unfold quotePlus quote at h
  rw [henc] at h
  split at h <;> cases h
  · obtain ⟨hch, hun⟩ := key [32] (by simp [SafeOk])
    refine ⟨fun c hc => ?_, by rw [plusToSpace_map _ fun c hc => (hch c hc).2.2.2, hun]⟩
    obtain ⟨c0, hc0, rfl⟩ := List.mem_map.mp hc
    have := hch c0 hc0
    unfold QChar at this
    split <;> omega
  · obtain ⟨hch, hun⟩ := key [] (by simp [SafeOk])
    refine ⟨fun c hc => ?_, by rw [plusToSpace_id _ fun c hc => (hch c hc).2.2.2, hun]⟩
    have := hch c hc
    unfold QChar at this
    omega

/-! ### split on `&` -/

theorem splitOn_eq (sep : Nat) (s : Str) : splitOn sep s = s.splitOn sep := by
  induction s with
  | nil => rfl
  | cons c r ih =>
    rw [splitOn, List.splitOn_cons_eq_if_modifyHead, ih]
    cases h : List.splitOn sep r with
    | nil => exact absurd h (List.splitOn_ne_nil sep r)
    | cons p ps => simp

theorem joinAmp_eq (fs : List Str) : joinAmp fs = [38].intercalate fs := by
  induction fs with
  | nil => rfl
  | cons f r ih =>
    cases r with
    | nil => simp [joinAmp]
    | cons g r => rw [joinAmp, ih, List.intercalate_cons_cons]; simp

theorem splitOn_ne_nil (sep : Nat) (s : Str) : splitOn sep s ≠ [] := by
  rw [splitOn_eq]; exact List.splitOn_ne_nil sep s

theorem splitOn_joinAmp (f : Str) (fs : List Str) (h : ∀ g ∈ f :: fs, 38 ∉ g) :
    splitOn 38 (joinAmp (f :: fs)) = f :: fs := by
  rw [splitOn_eq, joinAmp_eq]; exact List.splitOn_intercalate 38 h (by simp)

/-! ### urlencode / parse_qsl -/

theorem splitFirst_append (sep : Nat) (a b : Str) (h : sep ∉ a) :
    splitFirst sep (a ++ sep :: b) = (a, some b) := by
  induction a with
  | nil => simp [splitFirst]
  | cons c r ih =>
    obtain ⟨hc, hr⟩ := List.ne_and_not_mem_of_not_mem_cons h
    simp [splitFirst, Ne.symm hc, ih hr]

theorem parseField_pair (a b : Str) (h : 61 ∉ a) :
    parseField true (a ++ 61 :: b) = some (unquote (plusToSpace a), unquote (plusToSpace b)) := by
  unfold parseField
  have : a ++ 61 :: b ≠ [] := by simp
  simp [this, splitFirst_append 61 a b h]

theorem encFields_isSome (ps : List (Str × Str)) :
    (encFields ps).isSome ↔ ∀ p ∈ ps, ValidStr p.1 ∧ ValidStr p.2 := by
  induction ps with
  | nil => simp [encFields]
  | cons p r ih =>
    rw [List.forall_mem_cons, ← ih, ← quotePlus_isSome, ← quotePlus_isSome, encFields]
    cases quotePlus p.1 <;> cases quotePlus p.2 <;> cases encFields r <;> simp

theorem encFields_spec {ps : List (Str × Str)} {fs : List Str} (h : encFields ps = some fs) :
    (∀ g ∈ fs, 38 ∉ g) ∧ fs.filterMap (parseField true) = ps := by
  induction ps generalizing fs with
  | nil => cases h; simp
  | cons p r ih =>
    obtain ⟨k, v⟩ := p
    unfold encFields at h
    cases ha : quotePlus k <;> cases hb : quotePlus v <;> cases hr : encFields r <;>
      simp only [ha, hb, hr, reduceCtorEq] at h
    cases h
    rename_i a b fs'
    obtain ⟨hch, hparse⟩ := ih hr
    obtain ⟨hca, hua⟩ := quotePlus_spec ha
    obtain ⟨hcb, hub⟩ := quotePlus_spec hb
    have h61 : 61 ∉ a := fun hm => (hca 61 hm).2 rfl
    refine ⟨?_, by simp only [List.filterMap_cons, parseField_pair a b h61, hua, hub, hparse]⟩
    intro g hg
    rcases List.mem_cons.mp hg with rfl | hg
    · simp only [List.mem_append, List.mem_cons, not_or]
      exact ⟨fun h1 => (hca 38 h1).1 rfl, by omega, fun h2 => (hcb 38 h2).1 rfl⟩
    · exact hch g hg

/-- `parse_qsl`'s test for the empty string changes nothing: it splits into one empty field, which
is skipped -/
theorem parseQsl_eq (keepBlank : Bool) (qs : Str) :
    parseQsl keepBlank qs = (splitOn 38 qs).filterMap (parseField keepBlank) := by
  unfold parseQsl
  split
  · rename_i h; subst h; rfl
  · rfl

end Baize.MultiMap
