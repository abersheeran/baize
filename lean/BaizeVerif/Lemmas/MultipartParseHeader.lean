/-
`parse_header` (baize/utils.py) on what an encoder writes: `type; k1="v1"; k2="v2" …`, the values
free of quote and backslash, is read back as the type and the options (`parseHeaderValue_options`);
`;`, `=` and spaces inside the quotes are passed over by the quote-parity scan of `_parseparam`.
-/
import BaizeVerif.Model.Multipart

namespace Baize.Multipart

theorem stripBy_ends (p : Nat → Bool) (a z : Nat) (m : List Nat) (ha : p a = false) (hz : p z = false) :
    stripBy p (a :: m ++ [z]) = a :: m ++ [z] := by
  simp [stripBy, ha, hz]

theorem stripBy_single (p : Nat → Bool) (a : Nat) (ha : p a = false) : stripBy p [a] = [a] := by
  simp [stripBy, ha]

theorem stripBy_cons_space (p : Nat → Bool) (s : Nat) (l : List Nat) (hs : p s = true) :
    stripBy p (s :: l) = stripBy p l := by
  simp [stripBy, hs]

/-- no quote and no backslash -/
def QuoteFree (l : List Nat) : Prop := ∀ x ∈ l, x ≠ 34 ∧ x ≠ 92

theorem replaceGo_of_not_mem (a : Nat) (pr rep : List Nat) :
    ∀ (l : List Nat), (∀ x ∈ l, x ≠ a) → replaceGo (a :: pr) rep 0 l = l
  | [], _ => rfl
  | c :: cs, h => by
    have hnp : (a :: pr).isPrefixOf (c :: cs) = false := by
      have hc : a ≠ c := fun h' => h c (by simp) h'.symm
      simp [List.isPrefixOf, hc]
    rw [replaceGo]
    simp only [hnp, Bool.false_and, Bool.false_eq_true, if_false]
    rw [replaceGo_of_not_mem a pr rep cs (fun x hx => h x (by simp [hx]))]

theorem findSub_single (c : Nat) (l : List Nat) : findSub [c] l = l.findIdx? (· == c) := by
  induction l with
  | nil => rfl
  | cons x l ih =>
    rw [findSub, List.findIdx?_cons, ih]
    by_cases h : x = c
    · simp [List.isPrefixOf, h]
    · cases List.findIdx? (· == c) l <;> simp [List.isPrefixOf, h, eq_comm (a := c)]

theorem findSub_single_cons_eq (c : Nat) (l : List Nat) : findSub [c] (c :: l) = some 0 := by
  simp [findSub_single, List.findIdx?_cons]

theorem findSub_single_none (c : Nat) (l : List Nat) (h : ∀ x ∈ l, x ≠ c) : findSub [c] l = none := by
  simpa [findSub_single] using h

theorem findSub_single_append (c : Nat) (A l : List Nat) (hA : ∀ x ∈ A, x ≠ c) :
    findSub [c] (A ++ l) = (findSub [c] l).map (· + A.length) := by
  have := findSub_single_none c A hA
  simp only [findSub_single] at this ⊢
  rw [List.findIdx?_append, this, Option.none_or]

theorem findFrom_append (c : Nat) (P R : List Nat) :
    findFrom c (P ++ R) P.length = (findSub [c] R).map (P.length + ·) := by
  unfold findFrom
  rw [List.drop_left]
  cases findSub [c] R <;> rfl

theorem findFrom_skip (c : Nat) (P A R : List Nat) (hA : ∀ x ∈ A, x ≠ c) :
    findFrom c (P ++ (A ++ R)) P.length = findFrom c (P ++ (A ++ R)) (P.length + A.length) := by
  rw [findFrom_append, findSub_single_append c A R hA, ← List.append_assoc, ← List.length_append, findFrom_append]
  cases findSub [c] R <;> simp [Nat.add_comm, Nat.add_left_comm]

theorem findFrom_hit (c : Nat) (P R : List Nat) : findFrom c (P ++ c :: R) P.length = some P.length := by
  rw [findFrom_append, findSub_single_cons_eq]; rfl

theorem countEscQuote_zero (l : List Nat) (h : ∀ x ∈ l, x ≠ 92) : countEscQuote l = 0 := by
  induction l with
  | nil => rfl
  | cons a l ih =>
    have ha : a ≠ 92 := h a (by simp)
    have ih' := ih (fun x hx => h x (by simp [hx]))
    unfold countEscQuote
    split <;> simp_all

/-- the text `P` ends inside a quoted string: it holds one quote, and no backslash -/
def InQuote (P : List Nat) : Prop := (P.filter (· = 34)).length = 1 ∧ ∀ x ∈ P, x ≠ 92

theorem InQuote.snoc {P : List Nat} {n : Nat} (h : InQuote P) (hn : n ≠ 34 ∧ n ≠ 92) : InQuote (P ++ [n]) := by
  refine ⟨by simp [List.filter_append, h.1, hn.1], fun x hx => ?_⟩
  rcases List.mem_append.mp hx with hx | hx
  · exact h.2 x hx
  · rw [List.mem_singleton.mp hx]; exact hn.2

/-- the quote balance that `paramEnd` tests.  The model subtracts in `Nat` where Python subtracts
integers; nothing is lost: each `\"` that `countEscQuote` counts holds a `"` that `countQuote` counts. -/
theorem balance_append (P R : List Nat) (hP : ∀ x ∈ P, x ≠ 92) :
    countQuote (P ++ R) P.length - countEscQuote ((P ++ R).take P.length) = (P.filter (· = 34)).length := by
  rw [countQuote, List.take_left, countEscQuote_zero P hP, Nat.sub_zero]

theorem InQuote.pos {P : List Nat} (h : InQuote P) : 0 < P.length := by
  cases P with
  | nil => cases h.1
  | cons => simp

/-- inside a quoted string every `;` is passed over; the scan stops at the first `;`
after the closing quote, or finds none -/
theorem paramEnd_in_quotes (N : List Nat) (hN : QuoteFree N) :
    ∀ (P rest : List Nat) (fuel : Nat), N.length < fuel → InQuote P → (rest = [] ∨ ∃ r, rest = 59 :: r) →
      paramEnd (P ++ (N ++ 34 :: rest)) fuel (findFrom 59 (P ++ (N ++ 34 :: rest)) P.length) =
        (if rest = [] then none else some (P.length + N.length + 1)) := by
  induction N with
  | nil =>
    intro P rest fuel hf hP hrest
    have hb : ∀ x ∈ P ++ [34], x ≠ 92 := by
      simp only [List.forall_mem_append, List.forall_mem_singleton]
      exact ⟨hP.2, by decide⟩
    show paramEnd (P ++ ([34] ++ rest)) fuel (findFrom 59 (P ++ ([34] ++ rest)) P.length) = _
    rw [findFrom_skip 59 P [34] rest (by decide), ← List.append_assoc, ← List.length_append]
    rcases hrest with rfl | ⟨r, rfl⟩
    · rw [findFrom_append]
      cases fuel <;> simp [paramEnd, findSub]
    · -- the `;` behind the closing quote: two quotes in front of it
      obtain ⟨fuel, rfl⟩ : ∃ k, fuel = k + 1 := ⟨fuel - 1, by omega⟩
      rw [findFrom_hit, paramEnd, balance_append _ _ hb]
      simp [List.filter_append, hP.1]
  | cons n N ih =>
    intro P rest fuel hf hP hrest
    have hn := hN n (by simp)
    have hs : P ++ (n :: N ++ 34 :: rest) = (P ++ [n]) ++ (N ++ 34 :: rest) := by simp
    have hih := ih (fun x hx => hN x (by simp [hx])) (P ++ [n]) rest
    simp only [List.length_append, List.length_singleton, ← hs] at hih
    by_cases h59 : n = 59
    · -- a `;` inside the quotes: the quotes in front of it are unbalanced, so the scan goes on
      subst h59
      obtain ⟨fuel, rfl⟩ : ∃ k, fuel = k + 1 := ⟨fuel - 1, by omega⟩
      show paramEnd (P ++ (59 :: (N ++ 34 :: rest))) _ (findFrom 59 (P ++ (59 :: (N ++ 34 :: rest))) P.length) = _
      rw [findFrom_hit, paramEnd, balance_append P _ hP.2, hP.1]
      simp only [hP.pos, decide_true, Bool.true_and, Nat.one_mod, if_true]
      have := hih fuel (by simp at hf; omega) (hP.snoc hn) hrest
      simpa [Nat.add_assoc, Nat.add_comm 1] using this
    · show paramEnd (P ++ ([n] ++ (N ++ 34 :: rest))) _ (findFrom 59 (P ++ ([n] ++ (N ++ 34 :: rest))) P.length) = _
      rw [findFrom_skip 59 P [n] _ (by simpa using h59)]
      have := hih fuel (by simp at hf; omega) (hP.snoc hn) hrest
      simpa [Nat.add_assoc, Nat.add_comm 1] using this

/-- the end index `_parseparam` computes for one field -/
def fieldEnd (s : List Nat) : Nat :=
  match paramEnd s (s.length + 1) (findFrom 59 s 0) with
  | some i => i
  | none => s.length

/-- a field as `_parseparam` cuts it: it ends at its own end, whether the text stops there or a `;` follows -/
def FieldOK (f : List Nat) : Prop :=
  ∀ rest, (rest = [] ∨ ∃ r, rest = 59 :: r) → fieldEnd (f ++ rest) = f.length

theorem fieldOK_quoted (A N : List Nat) (hA : ∀ x ∈ A, x ≠ 59 ∧ x ≠ 34 ∧ x ≠ 92) (hN : QuoteFree N) :
    FieldOK (A ++ 34 :: N ++ [34]) := by
  intro rest hrest
  have hP : InQuote (A ++ [34]) := by
    refine ⟨?_, ?_⟩
    · rw [List.filter_append, List.filter_eq_nil_iff.mpr fun x hx => by simp [(hA x hx).2.1]]; rfl
    · simp only [List.forall_mem_append, List.forall_mem_singleton]
      exact ⟨fun x hx => (hA x hx).2.2, by decide⟩
  have h59 : ∀ x ∈ A ++ [34], x ≠ 59 := by
    simp only [List.forall_mem_append, List.forall_mem_singleton]
    exact ⟨fun x hx => (hA x hx).1, by decide⟩
  have hs : A ++ 34 :: N ++ [34] ++ rest = (A ++ [34]) ++ (N ++ 34 :: rest) := by simp
  have hskip := findFrom_skip 59 [] (A ++ [34]) (N ++ 34 :: rest) h59
  simp only [List.nil_append, List.length_nil, Nat.zero_add] at hskip
  unfold fieldEnd
  rw [hs, hskip, paramEnd_in_quotes N hN (A ++ [34]) rest _ (by simp; omega) hP hrest]
  rcases hrest with rfl | ⟨r, rfl⟩ <;> simp <;> omega

theorem fieldOK_plain (A : List Nat) (hA : ∀ x ∈ A, x ≠ 59 ∧ x ≠ 34) : FieldOK A := by
  intro rest hrest
  have hskip := findFrom_skip 59 [] A rest fun x hx => (hA x hx).1
  simp only [List.nil_append, List.length_nil, Nat.zero_add] at hskip
  unfold fieldEnd
  rw [hskip]
  rcases hrest with rfl | ⟨r, rfl⟩
  · rw [findFrom_append]; simp [paramEnd, findSub]
  · have hq : countQuote (A ++ 59 :: r) A.length = 0 := by
      rw [countQuote, List.take_left, List.filter_eq_nil_iff.mpr fun x hx => by simp [(hA x hx).2]]; rfl
    rw [findFrom_hit, paramEnd]
    simp [hq]

theorem parseParam_succ (fuel : Nat) (s : List Nat) :
    parseParam (fuel + 1) (59 :: s) =
      stripBy isPySpace (s.take (fieldEnd s)) :: parseParam fuel (s.drop (fieldEnd s)) := by
  rw [parseParam]
  rfl

theorem parseParam_nil (fuel : Nat) : parseParam fuel [] = [] := by
  cases fuel <;> simp [parseParam]

theorem parseParam_fields : ∀ (fs : List (List Nat)) (fuel : Nat), (fs.flatMap (59 :: ·)).length ≤ fuel →
    (∀ f ∈ fs, FieldOK f) → parseParam fuel (fs.flatMap (59 :: ·)) = fs.map (stripBy isPySpace)
  | [], fuel, _, _ => parseParam_nil fuel
  | f :: fs, 0, h, _ => by simp at h
  | f :: fs, fuel + 1, h, hok => by
    have hrest : fs.flatMap (59 :: ·) = [] ∨ ∃ r, fs.flatMap (59 :: ·) = 59 :: r := by
      cases fs with
      | nil => exact Or.inl rfl
      | cons g gs => exact Or.inr ⟨_, rfl⟩
    rw [List.flatMap_cons, List.cons_append, parseParam_succ, hok f (by simp) _ hrest, List.take_left,
      List.drop_left, parseParam_fields fs fuel
        (by simp only [List.flatMap_cons, List.length_append, List.length_cons] at h; omega)
        fun g hg => hok g (by simp [hg])]
    rfl

/-- an option key as the encoder writes it (`name`, `filename`): lower-case ASCII letters -/
def KeyOK (K : List Nat) : Prop :=
  (∃ a m z, K = a :: m ++ [z]) ∧ ∀ x ∈ K, 97 ≤ x ∧ x ≤ 122

theorem isPySpace_of_lower {x : Nat} (h : 97 ≤ x ∧ x ≤ 122) : isPySpace x = false := by
  simp [isPySpace]; omega

theorem keyOK_facts {K : List Nat} (h : KeyOK K) :
    (∀ x ∈ K, x ≠ 61) ∧ stripBy isPySpace K = K ∧ lowerAscii K = K := by
  obtain ⟨⟨a, m, z, hK⟩, hr⟩ := h
  refine ⟨fun x hx => by have := hr x hx; omega, ?_, ?_⟩
  · rw [hK]
    exact stripBy_ends _ _ _ _ (isPySpace_of_lower (hr a (by rw [hK]; simp)))
      (isPySpace_of_lower (hr z (by rw [hK]; simp)))
  · unfold lowerAscii
    rw [List.map_congr_left (g := id)]
    · simp
    · intro x hx
      have := hr x hx
      rw [if_neg (by simp; omega)]
      rfl

theorem parseOption_quoted (K N : List Nat) (hK : KeyOK K) (hN : QuoteFree N) :
    parseOption (K ++ 61 :: 34 :: N ++ [34]) = some (K, N) := by
  obtain ⟨hK61, hKstrip, hKlower⟩ := keyOK_facts hK
  have hfind : findSub [61] (K ++ 61 :: (34 :: N ++ [34])) = some K.length := by
    rw [findSub_single_append 61 K _ hK61, findSub_single_cons_eq]
    simp
  have hdrop : (K ++ 61 :: (34 :: N ++ [34])).drop (K.length + 1) = 34 :: N ++ [34] := by
    rw [← List.drop_drop, List.drop_left]; rfl
  have hlast : (34 :: N ++ [34]).getLast? = some 34 := List.getLast?_concat (l := 34 :: N)
  have hrep : ∀ pr rep, replaceAll (92 :: pr) rep N = N := fun pr rep =>
    replaceGo_of_not_mem 92 pr rep N fun x hx => (hN x hx).2
  unfold parseOption
  rw [show K ++ 61 :: 34 :: N ++ [34] = K ++ 61 :: (34 :: N ++ [34]) by simp, hfind]
  simp only [List.take_left, hdrop, hKstrip, hKlower, stripBy_ends isPySpace 34 34 N (by decide) (by decide), hlast]
  simp [hrep]

theorem fieldOK_kv (K V : List Nat) (hK : KeyOK K) (hV : QuoteFree V) :
    FieldOK (32 :: (K ++ 61 :: 34 :: V ++ [34])) := by
  have hA : ∀ x ∈ 32 :: (K ++ [61]), x ≠ 59 ∧ x ≠ 34 ∧ x ≠ 92 := by
    simp only [List.forall_mem_cons, List.forall_mem_append]
    exact ⟨by decide, fun x hx => by have := hK.2 x hx; omega, by decide⟩
  have := fieldOK_quoted (32 :: (K ++ [61])) V hA hV
  simpa using this

theorem stripBy_kv (K V : List Nat) (hK : KeyOK K) :
    stripBy isPySpace (32 :: (K ++ 61 :: 34 :: V ++ [34])) = K ++ 61 :: 34 :: V ++ [34] := by
  obtain ⟨⟨a, m, z, hKs⟩, hr⟩ := hK
  rw [stripBy_cons_space isPySpace 32 _ (by decide),
    show K ++ 61 :: 34 :: V ++ [34] = a :: (m ++ [z] ++ 61 :: 34 :: V) ++ [34] by rw [hKs]; simp]
  exact stripBy_ends _ _ _ _ (isPySpace_of_lower (hr a (by rw [hKs]; simp))) (by decide)

theorem parseHeaderValue_options (ty : List Nat) (kvs : List (List Nat × List Nat)) (hty : FieldOK ty)
    (hstrip : stripBy isPySpace ty = ty) (hkv : ∀ kv ∈ kvs, KeyOK kv.1 ∧ QuoteFree kv.2) :
    parseHeaderValue (ty ++ kvs.flatMap fun kv => 59 :: 32 :: (kv.1 ++ 61 :: 34 :: kv.2 ++ [34])) =
      (ty, kvs.foldl (fun d kv => dictSet d kv.1 kv.2) []) := by
  have hopts : (kvs.map fun kv => stripBy isPySpace (32 :: (kv.1 ++ 61 :: 34 :: kv.2 ++ [34]))).filterMap parseOption =
      kvs := by
    induction kvs with
    | nil => rfl
    | cons kv t ih =>
      have h := hkv kv (by simp)
      rw [List.map_cons, List.filterMap_cons, stripBy_kv _ _ h.1, parseOption_quoted _ _ h.1 h.2,
        ih fun x hx => hkv x (by simp [hx])]
  have hl : 59 :: (ty ++ kvs.flatMap fun kv => 59 :: 32 :: (kv.1 ++ 61 :: 34 :: kv.2 ++ [34])) =
      (ty :: kvs.map fun kv => 32 :: (kv.1 ++ 61 :: 34 :: kv.2 ++ [34])).flatMap (59 :: ·) := by
    simp [List.flatMap_map]
  unfold parseHeaderValue
  rw [hl, parseParam_fields _ _ (by rw [← hl]; simp)
    (List.forall_mem_cons.mpr ⟨hty, List.forall_mem_map.mpr fun kv h => fieldOK_kv _ _ (hkv kv h).1 (hkv kv h).2⟩)]
  simp only [List.map_cons, List.map_map, Function.comp_def, hstrip, hopts]

end Baize.Multipart
