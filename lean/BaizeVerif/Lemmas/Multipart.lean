/-
The byte-level scanners of `Model/Multipart.lean` on arbitrary input: line breaks, the delimiter and
blank-line searches as one leftmost-match scan, `findSub`, the hold-back index and its bound.
-/
import BaizeVerif.Model.Multipart

namespace Baize.Multipart

/-! ### line breaks

`lbLen` takes the first alternative of `(?:\r\n|\n|\r)` that applies; the model says why that is
right where `--` follows.  It is as right in front of `[ \t]` (`subContGo`: the alternative `\r` of a
`\r\n` pair would leave the `\n` to `[ \t]`) and at the end of a pattern (`afterMarker`: the regex
engine stops at the first alternative that matches). -/

theorem lbLen_le_two (l : Bytes) : lbLen l ≤ 2 := by
  unfold lbLen; split <;> omega

theorem lbLen_le_length (l : Bytes) : lbLen l ≤ l.length := by
  unfold lbLen; split <;> simp

theorem isLB_iff (c : Nat) : isLB c = true ↔ c = 13 ∨ c = 10 := by
  simp [isLB]

theorem not_isLB {x : Nat} (h : isLB x = false) : x ≠ 13 ∧ x ≠ 10 := by
  constructor <;> (intro hx; subst hx; cases h)

theorem lbLen_cons_of_not_isLB {c : Nat} (r : Bytes) (h : isLB c = false) : lbLen (c :: r) = 0 := by
  obtain ⟨h13, h10⟩ := not_isLB h
  unfold lbLen
  split <;> simp_all

theorem lbLen_nil : lbLen [] = 0 := rfl

theorem lbLen_pos {l : Bytes} (h : 0 < lbLen l) : ∃ c r, l = c :: r ∧ isLB c = true := by
  unfold lbLen at h
  split at h
  · exact ⟨13, _, rfl, by decide⟩
  · exact ⟨10, _, rfl, by decide⟩
  · exact ⟨13, _, rfl, by decide⟩
  · omega

theorem lbLen_two {l : Bytes} (h : lbLen l = 2) : ∃ r, l = 13 :: 10 :: r := by
  unfold lbLen at h
  split at h
  · exact ⟨_, rfl⟩
  all_goals omega

theorem lbLen_cr_ne_zero (t : Bytes) : lbLen (13 :: t) ≠ 0 := by
  unfold lbLen
  split <;> simp_all

theorem subContGo_lf (x : Nat) (r : Bytes) (h32 : x ≠ 32) (h9 : x ≠ 9) :
    subContGo 0 (10 :: x :: r) = 10 :: subContGo 0 (x :: r) := by
  rw [subContGo]
  simp [lbLen, h32, h9]

theorem subContGo_crlf (x : Nat) (r : Bytes) (h32 : x ≠ 32) (h9 : x ≠ 9) :
    subContGo 0 (13 :: 10 :: x :: r) = 13 :: 10 :: subContGo 0 (x :: r) := by
  rw [subContGo]
  simp [lbLen, h32, h9, subContGo_lf x r h32 h9]

theorem subContGo_noLB (l rest : Bytes) (h : ∀ x ∈ l, isLB x = false) :
    subContGo 0 (l ++ rest) = l ++ subContGo 0 rest := by
  induction l with
  | nil => rfl
  | cons c cs ih =>
    have hc : isLB c = false := h c (by simp)
    show subContGo 0 (c :: (cs ++ rest)) = _
    rw [subContGo]
    have hk : lbLen (c :: (cs ++ rest)) = 0 := lbLen_cons_of_not_isLB _ hc
    simp only [hk, Nat.lt_irrefl, decide_false, Bool.false_and, Bool.false_eq_true, if_false]
    rw [ih (fun x hx => h x (by simp [hx]))]
    rfl

/-! ### leftmost match

`delimSearch` and `blankLineSearch` are the same scan: try an anchored matcher at every position
from the left and report the first success.  `firstMatch` is that scan; the facts about the two
searches on a whole buffer are its three lemmas, instantiated (`*_append_left`, `*_none_of_forall`, `*_some_bounds`);
`delimSearch_cons_none` and `delimSearch_of_match` step the scan by one position.  A hypothesis of the shape
`∀ A1 A2, A = A1 ++ A2 → A2 ≠ [] → m (A2 ++ l) = none` says, by suffixes, that no match starts inside `A`. -/

def firstMatch {β : Type} (m : Bytes → Option β) : Bytes → Option (Nat × β)
  | [] => none
  | c :: cs =>
    match m (c :: cs) with
    | some r => some (0, r)
    | none => (firstMatch m cs).map fun p => (p.1 + 1, p.2)

section
variable {β : Type} {m : Bytes → Option β}

theorem firstMatch_append (A l : Bytes) (h : ∀ A1 A2, A = A1 ++ A2 → A2 ≠ [] → m (A2 ++ l) = none) :
    firstMatch m (A ++ l) = (firstMatch m l).map fun p => (p.1 + A.length, p.2) := by
  induction A with
  | nil => simp
  | cons a A ih =>
    have hhead : m (a :: (A ++ l)) = none := h [] (a :: A) rfl (List.cons_ne_nil a A)
    rw [List.cons_append, firstMatch, hhead, ih fun A1 A2 hA => h (a :: A1) A2 (by rw [hA, List.cons_append])]
    cases firstMatch m l <;> simp [Nat.add_assoc]

theorem firstMatch_eq_none {l : Bytes} (h : ∀ A1 A2, l = A1 ++ A2 → A2 ≠ [] → m A2 = none) :
    firstMatch m l = none := by
  have := firstMatch_append (m := m) l [] (by simpa using h)
  simpa [firstMatch] using this

theorem firstMatch_some {l : Bytes} {i : Nat} {r : β} (h : firstMatch m l = some (i, r)) :
    i < l.length ∧ m (l.drop i) = some r := by
  induction l generalizing i with
  | nil => cases h
  | cons c cs ih =>
    rw [firstMatch] at h
    split at h
    · rename_i hm
      cases h
      exact ⟨Nat.zero_lt_succ _, hm⟩
    · cases hc : firstMatch m cs with
      | none => rw [hc] at h; cases h
      | some p =>
        rw [hc] at h
        cases h
        exact ⟨Nat.succ_lt_succ (ih hc).1, (ih hc).2⟩

end

theorem delimSearch_eq_firstMatch (o : Bool) (mk l : Bytes) :
    delimSearch o mk l =
      (firstMatch (matchDelimAt o mk) l).map fun p => (p.1, p.1 + p.2.1, p.2.2) := by
  induction l with
  | nil => rfl
  | cons c cs ih =>
    rw [delimSearch, firstMatch]
    cases matchDelimAt o mk (c :: cs) with
    | some r => simp
    | none =>
      rw [ih]
      cases firstMatch (matchDelimAt o mk) cs <;> simp [Nat.add_right_comm]

def blankMatch (l : Bytes) : Option Nat := if 0 < blankAt l then some (blankAt l) else none

theorem blankLineSearch_eq_firstMatch (l : Bytes) :
    blankLineSearch l = (firstMatch blankMatch l).map fun p => (p.1, p.1 + p.2) := by
  induction l with
  | nil => rfl
  | cons c cs ih =>
    rw [blankLineSearch, firstMatch, blankMatch]
    split
    · simp
    · rw [ih]
      cases firstMatch blankMatch cs <;> simp [Nat.add_right_comm]

theorem afterMarker_nil : afterMarker [] = none := by
  simp [afterMarker, lbLen]

theorem afterMarker_cr (t : Bytes) : afterMarker (13 :: t) = some (lbLen (13 :: t), false) := by
  have hk := lbLen_cr_ne_zero t
  unfold afterMarker
  simp [isBlank, hk]

theorem afterMarker_some_bounds {l : Bytes} {n : Nat} {f : Bool} (h : afterMarker l = some (n, f)) :
    0 < n ∧ n ≤ l.length := by
  have key : ∀ r : Bytes, (r.takeWhile isBlank).length + lbLen (r.drop (r.takeWhile isBlank).length) ≤ r.length := by
    intro r
    have h1 := lbLen_le_length (r.drop (r.takeWhile isBlank).length)
    have h2 : (r.takeWhile isBlank).length ≤ r.length := (List.takeWhile_prefix isBlank).length_le
    simp only [List.length_drop] at h1
    omega
  unfold afterMarker at h
  split at h
  · rename_i r
    simp only [Option.some.injEq, Prod.mk.injEq] at h
    have := key r
    simp only [List.length_cons]
    omega
  · simp only at h
    split at h
    · cases h
    · simp only [Option.some.injEq, Prod.mk.injEq] at h
      have := key l
      omega

theorem matchDelimAt_some_bounds {o : Bool} {mk l : Bytes} {n : Nat} {f : Bool}
    (h : matchDelimAt o mk l = some (n, f)) : lbLen l + mk.length < n ∧ n ≤ l.length := by
  unfold matchDelimAt at h
  simp only at h
  split at h
  · cases h
  · split at h
    · split at h
      · rename_i n' f' ham
        simp only [Option.some.injEq, Prod.mk.injEq] at h
        obtain ⟨hp, hle⟩ := afterMarker_some_bounds ham
        simp only [List.length_drop] at hle
        omega
      · cases h
    · cases h

theorem matchDelimAt_some_prefix {o : Bool} {mk l : Bytes} {r : Nat × Bool}
    (h : matchDelimAt o mk l = some r) : mk <+: l.drop (lbLen l) := by
  unfold matchDelimAt at h
  simp only at h
  split at h
  · cases h
  · split at h
    · rename_i hp; exact List.isPrefixOf_iff_prefix.mp hp
    · cases h

theorem delimSearch_cons_none (o : Bool) (mk : Bytes) (c : Nat) (cs : Bytes)
    (h : matchDelimAt o mk (c :: cs) = none) :
    delimSearch o mk (c :: cs) =
      (delimSearch o mk cs).map fun (r : Nat × Nat × Bool) => (r.1 + 1, r.2.1 + 1, r.2.2) := by
  rw [delimSearch, h]
  cases delimSearch o mk cs <;> rfl

theorem delimSearch_of_match {o : Bool} {mk l : Bytes} {n : Nat} {fin : Bool}
    (h : matchDelimAt o mk l = some (n, fin)) : delimSearch o mk l = some (0, n, fin) := by
  cases l with
  | nil => have := matchDelimAt_some_bounds h; simp at this; omega
  | cons c cs => rw [delimSearch, h]

theorem delimSearch_append_left (o : Bool) (mk A l : Bytes)
    (h : ∀ A1 A2, A = A1 ++ A2 → A2 ≠ [] → matchDelimAt o mk (A2 ++ l) = none) :
    delimSearch o mk (A ++ l) =
      (delimSearch o mk l).map fun (r : Nat × Nat × Bool) => (r.1 + A.length, r.2.1 + A.length, r.2.2) := by
  rw [delimSearch_eq_firstMatch, delimSearch_eq_firstMatch, firstMatch_append A l h]
  cases firstMatch (matchDelimAt o mk) l <;> simp [Nat.add_right_comm]

theorem delimSearch_none_of_forall (o : Bool) (mk l : Bytes)
    (h : ∀ A1 A2, l = A1 ++ A2 → A2 ≠ [] → matchDelimAt o mk A2 = none) :
    delimSearch o mk l = none := by
  rw [delimSearch_eq_firstMatch, firstMatch_eq_none h]
  rfl

theorem delimSearch_some_bounds {o : Bool} {mk l : Bytes} {s e : Nat} {f : Bool}
    (h : delimSearch o mk l = some (s, e, f)) : s < e ∧ e ≤ l.length := by
  rw [delimSearch_eq_firstMatch] at h
  obtain ⟨⟨i, n, f'⟩, hf, heq⟩ := Option.map_eq_some_iff.mp h
  cases heq
  have h1 := (firstMatch_some hf).1
  have := matchDelimAt_some_bounds (firstMatch_some hf).2
  simp only [List.length_drop] at this
  show i < i + n ∧ i + n ≤ l.length
  omega

theorem delimSearch_none_of_short (o : Bool) (mk l : Bytes) (h : l.length ≤ mk.length) :
    delimSearch o mk l = none := by
  apply delimSearch_none_of_forall
  intro A1 A2 hl _
  cases hm : matchDelimAt o mk A2 with
  | none => rfl
  | some r =>
    have := matchDelimAt_some_bounds hm
    have : A2.length ≤ l.length := by rw [hl]; simp
    omega

theorem delimSearch_false_none_of_noLB (mk l : Bytes) (h : ∀ x ∈ l, isLB x = false) :
    delimSearch false mk l = none := by
  apply delimSearch_none_of_forall
  intro A1 A2 hl hne
  cases A2 with
  | nil => exact absurd rfl hne
  | cons x r =>
    have hx : isLB x = false := h x (by rw [hl]; simp)
    unfold matchDelimAt
    simp [lbLen_cons_of_not_isLB r hx]

/-- the three alternatives of `BLANK_LINE_RE` -/
def BlankPat (P : Bytes) : Prop := P = [13, 13] ∨ P = [10, 10] ∨ P = [13, 10, 13, 10]

theorem blankAt_pat {P : Bytes} (hP : BlankPat P) (t : Bytes) : blankAt (P ++ t) = P.length := by
  rcases hP with rfl | rfl | rfl <;> rfl

theorem exists_pat_of_blankAt {l : Bytes} (h : blankAt l ≠ 0) : ∃ P t, BlankPat P ∧ l = P ++ t := by
  unfold blankAt at h
  split at h
  · rename_i a b rest
    split at h
    · rename_i h1; exact ⟨[13, 13], rest, Or.inl rfl, by simp [h1]⟩
    · split at h
      · rename_i h1; exact ⟨[10, 10], rest, Or.inr (Or.inl rfl), by simp [h1]⟩
      · split at h
        · rename_i h1
          split at h
          · rename_i c d r
            split at h
            · rename_i h2; exact ⟨[13, 10, 13, 10], r, Or.inr (Or.inr rfl), by simp [h1, h2]⟩
            · exact absurd rfl h
          · exact absurd rfl h
        · exact absurd rfl h
  · exact absurd rfl h

theorem BlankPat.isLB {P : Bytes} (hP : BlankPat P) : ∀ x ∈ P, isLB x = true := by
  rcases hP with rfl | rfl | rfl <;> decide

theorem blankAt_pos_le (l : Bytes) : blankAt l ≤ l.length := by
  by_cases h : blankAt l = 0
  · omega
  · obtain ⟨P, t, hP, rfl⟩ := exists_pat_of_blankAt h
    rw [blankAt_pat hP]; simp

theorem blankAt_prefix_zero (A D : Bytes) (h : blankAt (A ++ D) = 0) : blankAt A = 0 := by
  refine Decidable.by_contra fun hA => ?_
  obtain ⟨P, t, hP, rfl⟩ := exists_pat_of_blankAt hA
  rw [List.append_assoc, blankAt_pat hP] at h
  rcases hP with rfl | rfl | rfl <;> cases h

/-- the patterns consist of CR and LF only -/
theorem blankAt_append_of_mem {A : Bytes} {z : Nat} (hzA : z ∈ A) (hz : isLB z = false) (D : Bytes)
    (h0 : blankAt A = 0) : blankAt (A ++ D) = 0 := by
  refine Decidable.by_contra fun hA => ?_
  obtain ⟨P, t, hP, ht⟩ := exists_pat_of_blankAt hA
  rcases List.prefix_or_prefix_of_prefix (l₁ := P) (l₂ := A) ⟨t, ht.symm⟩ ⟨D, rfl⟩ with hp | hp
  · obtain ⟨u, hu⟩ := hp
    rw [← hu, blankAt_pat hP] at h0
    rcases hP with rfl | rfl | rfl <;> cases h0
  · have := hP.isLB z (hp.subset hzA)
    rw [hz] at this; cases this

theorem blankAt_cons_nonLB (x : Nat) (r : Bytes) (h : isLB x = false) : blankAt (x :: r) = 0 :=
  blankAt_append_of_mem (A := [x]) (List.mem_singleton_self x) h r rfl

theorem blankLineSearch_append_left (A l : Bytes)
    (h : ∀ A1 A2, A = A1 ++ A2 → A2 ≠ [] → blankAt (A2 ++ l) = 0) :
    blankLineSearch (A ++ l) =
      (blankLineSearch l).map fun (r : Nat × Nat) => (r.1 + A.length, r.2 + A.length) := by
  have h' : ∀ A1 A2, A = A1 ++ A2 → A2 ≠ [] → blankMatch (A2 ++ l) = none := by
    intro A1 A2 hA hne
    simp [blankMatch, h A1 A2 hA hne]
  rw [blankLineSearch_eq_firstMatch, blankLineSearch_eq_firstMatch, firstMatch_append A l h']
  cases firstMatch blankMatch l <;> simp [Nat.add_right_comm]

theorem blankLineSearch_none_of_forall (l : Bytes) (h : ∀ A1 A2, l = A1 ++ A2 → A2 ≠ [] → blankAt A2 = 0) :
    blankLineSearch l = none := by
  rw [blankLineSearch_eq_firstMatch, firstMatch_eq_none fun A1 A2 hA hne => by simp [blankMatch, h A1 A2 hA hne]]
  rfl

theorem blankLineSearch_some_bounds {l : Bytes} {s e : Nat} (h : blankLineSearch l = some (s, e)) :
    s < e ∧ e ≤ l.length := by
  rw [blankLineSearch_eq_firstMatch] at h
  obtain ⟨⟨i, n⟩, hf, heq⟩ := Option.map_eq_some_iff.mp h
  cases heq
  obtain ⟨h1, h2⟩ := firstMatch_some hf
  unfold blankMatch at h2
  split at h2
  · injection h2 with h2
    have := blankAt_pos_le (l.drop i)
    simp only [List.length_drop] at this
    omega
  · cases h2

theorem findSub_eq_none_iff {pat l : Bytes} : findSub pat l = none ↔ ¬ pat <:+: l := by
  induction l with
  | nil => cases pat <;> simp [findSub]
  | cons c cs ih =>
    rw [findSub, List.infix_cons_iff, ← List.isPrefixOf_iff_prefix]
    split
    · simp [*]
    · cases hf : findSub pat cs <;> simp_all

/-- the cheap `find` in front of the DATA branch's search never hides a match -/
theorem dataSearch_eq (b buf : Bytes) : dataSearch b buf = delimSearch false (marker b) buf := by
  unfold dataSearch
  split
  · rename_i hf
    refine (delimSearch_none_of_forall _ _ _ fun A1 A2 hA _ => ?_).symm
    cases hm : matchDelimAt false (marker b) A2 with
    | none => rfl
    | some r =>
      refine absurd ?_ (findSub_eq_none_iff.mp (Option.isNone_iff_eq_none.mp hf))
      rw [hA]
      exact ((matchDelimAt_some_prefix hm).isInfix.trans (List.drop_suffix _ _).isInfix).trans
        (List.suffix_append A1 A2).isInfix
  · rfl

theorem lastLB_lt {buf : Bytes} {i : Nat} (h : lastLB buf = some i) : i < buf.length := by
  induction buf generalizing i with
  | nil => simp [lastLB] at h
  | cons c cs ih =>
    unfold lastLB at h
    split at h
    · rename_i j hj
      injection h with h; subst h
      have := ih hj
      simp; omega
    · split at h
      · injection h with h; subst h; simp
      · cases h

theorem lastLB_none_of_noLB {m : Bytes} (h : ∀ y ∈ m, isLB y = false) : lastLB m = none := by
  induction m with
  | nil => rfl
  | cons y m ih =>
    unfold lastLB
    rw [ih (fun z hz => h z (by simp [hz]))]
    simp [h y (by simp)]

theorem lastLB_append_lb (A : Bytes) (x : Nat) (m : Bytes) (hx : isLB x = true)
    (hm : ∀ y ∈ m, isLB y = false) : lastLB (A ++ x :: m) = some A.length := by
  induction A with
  | nil =>
    show lastLB (x :: m) = _
    unfold lastLB
    rw [lastLB_none_of_noLB hm]
    simp [hx]
  | cons a A ih =>
    show lastLB (a :: (A ++ x :: m)) = _
    unfold lastLB
    rw [ih]
    simp

/-- the blanks at the end of the buffer: transport padding being received -/
def trailingBlanks (buf : Bytes) : Nat := (buf.reverse.takeWhile isBlank).length

theorem lbStart_bounds (buf : Bytes) (i : Nat) : i - 1 ≤ lbStart buf i ∧ lbStart buf i ≤ i := by
  unfold lbStart; split <;> omega

theorem holdBack_le (mk buf : Bytes) : holdBack mk buf ≤ buf.length := by
  unfold holdBack
  split
  · exact Nat.le_refl _
  · rename_i i hi
    have hlt := lastLB_lt hi
    have := lbStart_bounds buf i
    split <;> omega

theorem holdBack_of_lastLB (mk A : Bytes) (x : Nat) (m : Bytes) (hx : isLB x = true)
    (hm : ∀ y ∈ m, isLB y = false) :
    holdBack mk (A ++ x :: m) =
      if maybeDelim mk m then lbStart (A ++ x :: m) A.length else (A ++ x :: m).length := by
  unfold holdBack
  rw [lastLB_append_lb A x m hx hm]
  have : (A ++ x :: m).drop (A.length + 1) = m := by rw [← List.drop_drop, List.drop_left]; rfl
  simp only [this]

theorem suffix_blank_le_trailing {t buf : Bytes} (hs : t <:+ buf) (hb : t.all isBlank = true) :
    t.length ≤ trailingBlanks buf := by
  obtain ⟨s, rfl⟩ := hs
  unfold trailingBlanks
  rw [List.reverse_append, List.takeWhile_append_of_pos (by simpa using hb)]
  simp

theorem maybeDelim_length {mk rest buf : Bytes} (hs : rest <:+ buf) (h : maybeDelim mk rest = true) :
    rest.length ≤ mk.length + 1 + trailingBlanks buf := by
  unfold maybeDelim at h
  split at h
  · omega
  · split at h
    · rename_i hgt hpre
      obtain ⟨t, ht⟩ := List.isPrefixOf_iff_prefix.mp hpre
      have hdrop : rest.drop mk.length = t := by rw [← ht]; simp
      have hlen : rest.length = mk.length + t.length := by rw [← ht]; simp
      rw [hdrop] at h
      simp only [Bool.or_eq_true, decide_eq_true_eq] at h
      rcases h with h1 | h2
      · rw [hlen, h1]; simp
      · have hsuf : t <:+ buf := by
          refine List.IsSuffix.trans ?_ hs
          rw [← ht]; exact List.suffix_append _ _
        have := suffix_blank_le_trailing hsuf h2
        omega
    · cases h

/-- On arbitrary bytes `last_newline()` keeps at most a line break, `--boundary` and either one
dash or the padding blanks now at the end of the buffer. -/
theorem length_sub_holdBack_le (mk buf : Bytes) :
    buf.length - holdBack mk buf ≤ mk.length + 3 + trailingBlanks buf := by
  unfold holdBack
  split
  · omega
  · rename_i i hi
    have hlt := lastLB_lt hi
    split
    · rename_i hm
      have h1 := maybeDelim_length (List.drop_suffix (i + 1) buf) hm
      have h2 := lbStart_bounds buf i
      simp only [List.length_drop] at h1
      omega
    · omega

theorem maybeDelim_prefix {mk m : Bytes} (h : m <+: mk) : maybeDelim mk m = true := by
  unfold maybeDelim
  rw [if_pos h.length_le]
  exact List.isPrefixOf_iff_prefix.mpr h

theorem maybeDelim_dash (mk : Bytes) : maybeDelim mk (mk ++ [45]) = true := by
  unfold maybeDelim
  have hlen : ¬ (mk ++ [45]).length ≤ mk.length := by simp
  rw [if_neg hlen]
  simp

/-- While at most `CRLF --boundary -` of the delimiter that follows the content `c` is in
the buffer, nothing beyond the content is released. -/
theorem holdBack_pending {mk c D : Bytes} (hno : ∀ x ∈ mk, isLB x = false) (hD : D <+: 13 :: 10 :: (mk ++ [45])) :
    holdBack mk (c ++ D) ≤ c.length := by
  rcases List.prefix_cons_iff.mp hD with rfl | ⟨D', rfl, hD'⟩
  · simpa using holdBack_le mk c
  · rcases List.prefix_cons_iff.mp hD' with rfl | ⟨m, rfl, hm⟩
    · -- only the CR: it is the last line break, and nothing follows it
      rw [holdBack_of_lastLB mk c 13 [] rfl nofun, if_pos (maybeDelim_prefix (List.nil_prefix (l := mk)))]
      exact (lbStart_bounds _ _).2
    · -- the LF is the last line break; what follows is a prefix of `--boundary -`
      have hnolb : ∀ y ∈ m, isLB y = false := fun y hy => by
        rcases List.mem_append.mp (hm.subset hy) with h | h
        · exact hno y h
        · rw [List.mem_singleton.mp h]; rfl
      have hmaybe : maybeDelim mk m = true := by
        rcases List.prefix_concat_iff.mp hm with rfl | hp
        · exact maybeDelim_dash mk
        · exact maybeDelim_prefix hp
      rw [show c ++ 13 :: 10 :: m = (c ++ [13]) ++ 10 :: m by simp,
        holdBack_of_lastLB mk (c ++ [13]) 10 m rfl hnolb, if_pos hmaybe]
      -- the one place where `lbStart` steps back: the LF at index `c.length + 1` has its CR in front
      unfold lbStart
      simp

end Baize.Multipart
