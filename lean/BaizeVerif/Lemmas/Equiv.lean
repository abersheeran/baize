/-
Lemmas and specification vocabulary of C04: what `toEnviron` and `toScope` do to one abstract request, read back
through the accessors of the two twins.
Headers: `cgiName` is undone by the generated key test and name expression of wsgi `HTTPConnection.headers`; the
environ is base variables ++ header variables, told apart by that same key test (`dictGet_env`); the scan loops of
the ASGI twins find what the lookups find when every name occurs once.
Paths: `enc`, the UTF-8 bytes read as Latin-1, is invisible to tests against ASCII text, which is all `Subpaths`
makes (`prefix_enc`, `dispatch_enc_all`).
-/
import BaizeVerif.Model.Equiv
import BaizeVerif.Lemmas.Url
import BaizeVerif.Lemmas.Headers
import BaizeVerif.Props.C09

namespace Baize.Equiv

open Cookie (dictGet dictSet)

/-- a field name the two servers present identically: ASCII without `_` -/
def NameOK (n : Str) : Prop := ∀ c ∈ n, c < 128 ∧ c ≠ 95

instance (n : Str) : Decidable (NameOK n) := by unfold NameOK; infer_instance

/-- what `toScope` does to one header -/
def lowerName (nv : Str × Bytes) : Str × Bytes := (Headers.lower nv.1, nv.2)

def cgiChar (c : Nat) : Nat := if c = 45 then 95 else upperAscii c

/-- the abstract lookup, to which every way the twins read a header comes: `env_get_http` (wsgi `environ["HTTP_…"]`),
`scope_scan` (asgi loops over `scope["headers"]`, last match wins), `scope_find` (`URL(scope=…)`, first match),
`headers_get` (`request.headers[…]` on either interface) -/
def headerGet (r : AbsRequest) (t : Str) : Option Bytes :=
  (r.headers.find? fun nv => Headers.lower nv.1 == t).map (·.2)

theorem cgi_char_all : ∀ c, c < 128 → c ≠ 95 →
    (if Headers.lowerCp (cgiChar c) = 95 then 45 else Headers.lowerCp (cgiChar c)) = Headers.lowerCp c := by
  decide +kernel

theorem cgi_char_lower : ∀ c, c < 128 → cgiChar (Headers.lowerCp c) = cgiChar c := by decide +kernel

theorem cgi_roundtrip {n : Str} (h : NameOK n) :
    (Headers.lower (n.map cgiChar)).map (fun c => if c = 95 then 45 else c) = Headers.lower n := by
  simp only [Headers.lower, List.map_map]
  exact List.map_congr_left fun c hc => cgi_char_all c (h c hc).1 (h c hc).2

theorem cgi_of_lower {n : Str} (h : NameOK n) : (Headers.lower n).map cgiChar = n.map cgiChar := by
  simp only [Headers.lower, List.map_map]
  exact List.map_congr_left fun c hc => cgi_char_lower c (h c hc).1

theorem nameOK_lower {n : Str} (h : NameOK n) : NameOK (Headers.lower n) := by
  intro c hc
  simp only [Headers.lower, List.mem_map] at hc
  obtain ⟨d, hd, rfl⟩ := hc
  have := h d hd
  unfold Headers.lowerCp
  split <;> omega

/-- the CGI variable names as lists: `simp` compares keys through these (`s "…"` does not reduce under it) -/
theorem cgi_keys :
    kHttp = [72, 84, 84, 80, 95] ∧ kContentType = [67, 79, 78, 84, 69, 78, 84, 95, 84, 89, 80, 69] ∧
    kContentLength = [67, 79, 78, 84, 69, 78, 84, 95, 76, 69, 78, 71, 84, 72] ∧
    kRequestMethod = [82, 69, 81, 85, 69, 83, 84, 95, 77, 69, 84, 72, 79, 68] ∧
    kScriptName = [83, 67, 82, 73, 80, 84, 95, 78, 65, 77, 69] ∧ kPathInfo = [80, 65, 84, 72, 95, 73, 78, 70, 79] ∧
    kQueryString = [81, 85, 69, 82, 89, 95, 83, 84, 82, 73, 78, 71] ∧
    kServerName = [83, 69, 82, 86, 69, 82, 95, 78, 65, 77, 69] ∧ kServerPort = [83, 69, 82, 86, 69, 82, 95, 80, 79, 82, 84] ∧
    kUrlScheme = [119, 115, 103, 105, 46, 117, 114, 108, 95, 115, 99, 104, 101, 109, 101] ∧
    kRemoteAddr = [82, 69, 77, 79, 84, 69, 95, 65, 68, 68, 82] ∧ kRemotePort = [82, 69, 77, 79, 84, 69, 95, 80, 79, 82, 84] := by
  decide +kernel

theorem cgiName_cases (n : Str) :
    (Headers.lower n = s "content-type" ∧ cgiName n = kContentType) ∨
    (Headers.lower n = s "content-length" ∧ cgiName n = kContentLength) ∨
    (Headers.lower n ≠ s "content-type" ∧ Headers.lower n ≠ s "content-length" ∧ cgiName n = kHttp ++ n.map cgiChar) := by
  unfold cgiName
  by_cases h1 : Headers.lower n = s "content-type"
  · left; simp [h1]
  · by_cases h2 : Headers.lower n = s "content-length"
    · right; left
      have hne : s "content-length" ≠ s "content-type" := by decide +kernel
      simp [h2, hne]
    · right; right; simp [h1, h2, cgiChar]

theorem wsgiHeaderKey_http (t : Str) : Gen.Equiv.wsgiHeaderKey (kHttp ++ t) = true := by
  simp [Gen.Equiv.wsgiHeaderKey, cgi_keys]

theorem wsgiHeaderKey_cgi (n : Str) : Gen.Equiv.wsgiHeaderKey (cgiName n) = true := by
  rcases cgiName_cases n with ⟨_, h⟩ | ⟨_, h⟩ | ⟨_, _, h⟩
  · rw [h]; decide +kernel
  · rw [h]; decide +kernel
  · rw [h]; exact wsgiHeaderKey_http _

theorem wsgiHeaderName_cgi {n : Str} (hn : NameOK n) :
    Gen.Equiv.wsgiHeaderName Headers.lower (cgiName n) = Headers.lower n := by
  rcases cgiName_cases n with ⟨hl, h⟩ | ⟨hl, h⟩ | ⟨_, _, h⟩
  · rw [h, hl]; decide +kernel
  · rw [h, hl]; decide +kernel
  · have := cgi_roundtrip hn
    simpa [h, cgi_keys, Gen.Equiv.wsgiHeaderName] using this

/-! ### the environ of `toEnviron`: the CGI variables that are not headers (`baseVars`), then one variable per header -/

def baseVars (r : AbsRequest) (rp p : Str) : List (Str × Str) :=
  [(kRequestMethod, r.method), (kScriptName, rp), (kPathInfo, p), (kQueryString, r.query),
   (kServerName, r.serverHost), (kServerPort, Url.renderNat r.serverPort), (kUrlScheme, r.scheme)]
    ++ clientVars r.client

def headerVars (r : AbsRequest) : List (Str × Str) := r.headers.map fun nv => (cgiName nv.1, nv.2)

theorem toEnviron_some {r : AbsRequest} {e : Environ} (h : toEnviron r = some e) :
    ∃ rp p, Url.utf8Encode r.rootPath = some rp ∧ Url.utf8Encode r.path = some p ∧
      e = { vars := baseVars r rp p ++ headerVars r, input := r.body.filter fun c => !c.isEmpty } := by
  unfold toEnviron at h
  cases h1 : Url.utf8Encode r.rootPath with
  | none => simp [h1] at h
  | some rp =>
    cases h2 : Url.utf8Encode r.path with
    | none => simp [h1, h2] at h
    | some p =>
      simp only [h1, h2, Option.some.injEq] at h
      exact ⟨rp, p, rfl, rfl, h.symm⟩

theorem wsgiHeaderKey_base : ∀ k ∈ [kRequestMethod, kScriptName, kPathInfo, kQueryString, kServerName, kServerPort,
    kUrlScheme, kRemoteAddr, kRemotePort], Gen.Equiv.wsgiHeaderKey k = false := by decide +kernel

theorem clientVars_keys (c : Option (Str × Option Nat)) :
    ∀ kv ∈ clientVars c, kv.1 = kRemoteAddr ∨ kv.1 = kRemotePort := by
  rcases c with _ | ⟨h, _ | port⟩ <;> simp [clientVars]

theorem baseVars_keys (r : AbsRequest) (rp p : Str) :
    ∀ kv ∈ baseVars r rp p, Gen.Equiv.wsgiHeaderKey kv.1 = false := by
  intro kv hkv
  refine wsgiHeaderKey_base _ ?_
  rcases List.mem_append.mp hkv with hkv | hkv
  · simp only [List.mem_cons, List.not_mem_nil, or_false] at hkv
    rcases hkv with rfl | rfl | rfl | rfl | rfl | rfl | rfl <;> simp
  · rcases clientVars_keys _ kv hkv with h | h <;> simp [h]

theorem headerVars_keys (r : AbsRequest) : ∀ kv ∈ headerVars r, Gen.Equiv.wsgiHeaderKey kv.1 = true := by
  intro kv hkv
  obtain ⟨nv, _, rfl⟩ := List.mem_map.mp hkv
  exact wsgiHeaderKey_cgi nv.1

theorem dictGet_env (r : AbsRequest) (rp p k : Str) :
    dictGet (baseVars r rp p ++ headerVars r) k =
      if Gen.Equiv.wsgiHeaderKey k then dictGet (headerVars r) k else dictGet (baseVars r rp p) k := by
  rw [Cookie.dictGet_append]
  split <;> rename_i hk
  · rw [Cookie.dictGet_absent fun kv hkv heq => by rw [← heq, baseVars_keys r rp p kv hkv] at hk; cases hk]
    rfl
  · rw [Cookie.dictGet_absent (d := headerVars r) fun kv hkv heq => hk (by rw [← heq]; exact headerVars_keys r kv hkv)]
    simp

/-- a lower-case field name other than the two a PEP 3333 server files without `HTTP_` -/
def HttpName (t : Str) : Prop := NameOK t ∧ Headers.lower t = t ∧ t ≠ s "content-type" ∧ t ≠ s "content-length"

instance (t : Str) : Decidable (HttpName t) := by unfold HttpName; infer_instance

theorem cgiName_eq_http {n t : Str} (hn : NameOK n) (htn : HttpName t) :
    cgiName n = kHttp ++ t.map cgiChar ↔ Headers.lower n = t := by
  obtain ⟨ht, hlow, h1, h2⟩ := htn
  rcases cgiName_cases n with ⟨hl, h⟩ | ⟨hl, h⟩ | ⟨hl1, hl2, h⟩
  · simp only [h, hl, cgi_keys]
    exact ⟨fun hh => by simp at hh, fun hh => absurd hh.symm h1⟩
  · simp only [h, hl, cgi_keys]
    exact ⟨fun hh => by simp at hh, fun hh => absurd hh.symm h2⟩
  · rw [h]
    constructor
    · intro hh
      have := congrArg (fun l => (Headers.lower l).map (fun c => if c = 95 then 45 else c)) (List.append_cancel_left hh)
      simpa only [cgi_roundtrip hn, cgi_roundtrip ht, hlow] using this
    · intro hh
      rw [← hh, cgi_of_lower hn]

theorem dictGet_headerVars (hs : List (Str × Bytes)) (hn : ∀ nv ∈ hs, NameOK nv.1) {t : Str} (htn : HttpName t) :
    dictGet (hs.map fun nv => (cgiName nv.1, nv.2)) (kHttp ++ t.map cgiChar)
      = (hs.find? fun nv => Headers.lower nv.1 == t).map (·.2) := by
  induction hs with
  | nil => rfl
  | cons nv rest ih =>
    have key := cgiName_eq_http (hn nv (by simp)) htn
    have ih' := ih (fun x hx => hn x (by simp [hx]))
    simp only [List.map_cons, dictGet, List.find?_cons]
    by_cases hk : cgiName nv.1 = kHttp ++ t.map cgiChar
    · have hb : (Headers.lower nv.1 == t) = true := by simpa using key.mp hk
      simp [hk, hb]
    · have hb : (Headers.lower nv.1 == t) = false := by simpa using fun hh => hk (key.mpr hh)
      simp [hk, hb, ih']

theorem env_get_http {r : AbsRequest} {e : Environ} (he : toEnviron r = some e)
    (hn : ∀ nv ∈ r.headers, NameOK nv.1) {t : Str} (ht : HttpName t) :
    e.get (kHttp ++ t.map cgiChar) = headerGet r t := by
  obtain ⟨rp, p, _, _, rfl⟩ := toEnviron_some he
  rw [Environ.get, dictGet_env, if_pos (wsgiHeaderKey_http _)]
  exact dictGet_headerVars r.headers hn ht

/-- what `toEnviron r = some e` says of the variables of `e` that are not headers -/
structure EnvOf (r : AbsRequest) (e : Environ) (rp p : Str) : Prop where
  rootPath : Url.utf8Encode r.rootPath = some rp
  path : Url.utf8Encode r.path = some p
  requestMethod : e.get kRequestMethod = some r.method
  scriptName : e.get kScriptName = some rp
  pathInfo : e.get kPathInfo = some p
  queryString : e.get kQueryString = some r.query
  serverName : e.get kServerName = some r.serverHost
  serverPort : e.get kServerPort = some (Url.renderNat r.serverPort)
  urlScheme : e.get kUrlScheme = some r.scheme
  input : e.input = r.body.filter (fun c => !c.isEmpty)

theorem env_shape {r : AbsRequest} {e : Environ} (he : toEnviron r = some e) : ∃ rp p, EnvOf r e rp p := by
  obtain ⟨rp, p, h1, h2, rfl⟩ := toEnviron_some he
  refine ⟨rp, p, h1, h2, ?_, ?_, ?_, ?_, ?_, ?_, ?_, ?_⟩ <;> simp [Environ.get, baseVars, dictGet, cgi_keys]

theorem env_get_client {r : AbsRequest} {e : Environ} (he : toEnviron r = some e) :
    e.get kRemoteAddr = dictGet (clientVars r.client) kRemoteAddr ∧
    e.get kRemotePort = dictGet (clientVars r.client) kRemotePort := by
  obtain ⟨rp, p, _, _, rfl⟩ := toEnviron_some he
  simp only [Environ.get, dictGet_env, wsgiHeaderKey_base kRemoteAddr (by simp),
    wsgiHeaderKey_base kRemotePort (by simp)]
  simp [baseVars, dictGet, cgi_keys]

theorem wsgiHeaders_toEnviron {r : AbsRequest} {e : Environ} (he : toEnviron r = some e)
    (hn : ∀ nv ∈ r.headers, NameOK nv.1) :
    wsgiHeaders e = Headers.initHeaders (r.headers.map lowerName) := by
  obtain ⟨rp, p, _, _, rfl⟩ := toEnviron_some he
  have hbase : (baseVars r rp p).filterMap (fun kv =>
      if Gen.Equiv.wsgiHeaderKey kv.1 then some (Gen.Equiv.wsgiHeaderName Headers.lower kv.1, kv.2) else none) = [] :=
    List.filterMap_eq_nil_iff.mpr fun kv hkv => by simp [baseVars_keys r rp p kv hkv]
  have hhdr : ∀ hs : List (Str × Bytes), (∀ nv ∈ hs, NameOK nv.1) →
      (hs.map fun nv => (cgiName nv.1, nv.2)).filterMap (fun kv =>
        if Gen.Equiv.wsgiHeaderKey kv.1 then some (Gen.Equiv.wsgiHeaderName Headers.lower kv.1, kv.2) else none)
      = hs.map lowerName := by
    intro hs hn
    induction hs with
    | nil => rfl
    | cons nv rest ih =>
      simp only [List.map_cons, List.filterMap_cons, wsgiHeaderKey_cgi, if_true, wsgiHeaderName_cgi (hn nv (by simp)),
        ih (fun x hx => hn x (by simp [hx])), lowerName]
  simp only [wsgiHeaders, List.filterMap_append, hbase, headerVars, hhdr r.headers hn, List.nil_append]

theorem decodeHeaderList_latin1 (l : List (Bytes × Bytes)) : decodeHeaderList l = .ok l := by
  induction l with
  | nil => rfl
  | cons kv rest ih =>
    simp [decodeHeaderList, decodeBytes, Gen.Equiv.asgiHeaderKeyCodec, Gen.Equiv.asgiHeaderValueCodec, ih,
      Url.Res.bind]

theorem asgiHeaders_toScope (r : AbsRequest) :
    asgiHeaders (toScope r) = .ok (Headers.initHeaders (r.headers.map lowerName)) := by
  simp only [asgiHeaders, toScope, decodeHeaderList_latin1, Url.Res.bind]
  rfl

theorem scanLast_acc (hs : List (Bytes × Bytes)) (k : Bytes) (acc : Option Bytes) :
    hs.foldl (fun acc kv => if kv.1 = k then some kv.2 else acc) acc = (scanLast hs k).or acc := by
  induction hs generalizing acc with
  | nil => simp [scanLast]
  | cons x xs ih =>
    simp only [List.foldl_cons, scanLast]
    rw [ih, ih (if x.1 = k then some x.2 else none)]
    cases scanLast xs k with
    | some v => simp
    | none => by_cases hx : x.1 = k <;> simp [hx]

theorem scanLast_cons (x : Bytes × Bytes) (xs : List (Bytes × Bytes)) (k : Bytes) :
    scanLast (x :: xs) k = (scanLast xs k).or (if x.1 = k then some x.2 else none) := by
  simp only [scanLast, List.foldl_cons]
  rw [scanLast_acc]
  simp [scanLast]

theorem scanLast_none {hs : List (Bytes × Bytes)} {k : Bytes} (h : ∀ kv ∈ hs, kv.1 ≠ k) : scanLast hs k = none := by
  induction hs with
  | nil => rfl
  | cons x xs ih =>
    rw [scanLast_cons, ih (fun kv hkv => h kv (by simp [hkv]))]
    simp [h x (by simp)]

/-- with every name once, "the last one wins" is "the first one wins" -/
theorem scanLast_find {hs : List (Bytes × Bytes)} (hnd : (hs.map (·.1)).Nodup) (k : Bytes) :
    scanLast hs k = (hs.find? fun kv => kv.1 == k).map (·.2) := by
  induction hs with
  | nil => rfl
  | cons x xs ih =>
    simp only [List.map_cons, List.nodup_cons] at hnd
    rw [scanLast_cons, List.find?_cons]
    by_cases hx : x.1 = k
    · have : scanLast xs k = none := by
        apply scanLast_none
        intro kv hkv hk
        exact hnd.1 (by rw [hx, ← hk]; exact List.mem_map_of_mem hkv)
      simp [hx, this]
    · have hb : (x.1 == k) = false := by simpa using hx
      simp [hx, hb, ih hnd.2]

/-- the scan of asgi `FileResponse.__call__` is two such loops in one -/
theorem scanHeaders_eq (hs : List (Bytes × Bytes)) (acc : Option Bytes × Option Bytes) :
    FileResponse.scanHeaders hs acc =
      ((scanLast hs FileResponse.kRange).or acc.1, (scanLast hs FileResponse.kIfRange).or acc.2) := by
  induction hs generalizing acc with
  | nil => simp [FileResponse.scanHeaders, scanLast]
  | cons x xs ih =>
    obtain ⟨k, v⟩ := x
    have hne : FileResponse.kRange ≠ FileResponse.kIfRange := by decide
    simp only [FileResponse.scanHeaders, scanLast_cons, ih, Option.or_assoc]
    by_cases h1 : k = FileResponse.kRange
    · subst h1
      simp [hne]
    · by_cases h2 : k = FileResponse.kIfRange
      · subst h2
        simp [hne.symm]
      · simp [h1, h2]

theorem find_lowered (hs : List (Str × Bytes)) (t : Str) :
    ((hs.map lowerName).find? fun kv => kv.1 == t).map (·.2) = (hs.find? fun nv => Headers.lower nv.1 == t).map (·.2) := by
  rw [List.find?_map, Option.map_map]
  rfl

theorem toScope_headers (r : AbsRequest) : (toScope r).headers = r.headers.map lowerName := rfl

theorem scope_scan (r : AbsRequest) (hnd : (r.headers.map fun nv => Headers.lower nv.1).Nodup) (t : Str) :
    scanLast (toScope r).headers t = headerGet r t := by
  rw [toScope_headers, scanLast_find, find_lowered]
  · rfl
  · rw [List.map_map]; exact hnd

/-- `URL(scope=…)` stops at the first `host` -/
theorem scope_find (r : AbsRequest) (t : Str) :
    ((toScope r).headers.find? fun kv => kv.1 == t).map (·.2) = headerGet r t := by
  rw [toScope_headers, find_lowered]; rfl

/-! ### `int(str(n))` -/

theorem isDigit_not_space {c : Nat} (h : Url.isDigit c = true) : Cookie.isSpace c = false := by
  simp only [Url.isDigit, Bool.and_eq_true, decide_eq_true_eq] at h
  simp only [Cookie.isSpace, Bool.or_eq_false_iff, Bool.and_eq_false_iff, decide_eq_false_iff_not, beq_eq_false_iff_ne]
  omega

theorem strip_digits {ds : Str} (h : ∀ c ∈ ds, Url.isDigit c = true) : Cookie.strip ds = ds :=
  Cookie.strip_ws_trimmed [] ds (by simp)
    ⟨fun c hc => isDigit_not_space (h c (List.mem_of_mem_head? hc)),
      fun c hc => isDigit_not_space (h c (List.mem_of_getLast? hc))⟩

theorem intDigits_digits {ds : Str} (h : ∀ c ∈ ds, Url.isDigit c = true) (prev : Bool) :
    intDigits prev ds = some ds := by
  induction ds generalizing prev with
  | nil => rfl
  | cons c cs ih =>
    simp [intDigits, h c (by simp), ih (fun x hx => h x (by simp [hx]))]

/-- the bound is that of a port, for which this is used; `int` takes any numeral of at most `Url.maxIntDigits` digits -/
theorem pyInt_renderNat {n : Nat} (hn : n ≤ 65535) : pyInt (Url.renderNat n) = some (n : Int) := by
  have hd := Url.renderNat_digits n
  have hlen := Url.renderNat_length n hn
  have hv := Url.renderNat_val n
  unfold pyInt
  rw [strip_digits hd]
  cases hr : Url.renderNat n with
  | nil => exact absurd hr (Url.renderNat_ne_nil n)
  | cons c cs =>
    rw [hr] at hd hlen hv
    have hc : 48 ≤ c ∧ c ≤ 57 := by simpa [Url.isDigit] using hd c (by simp)
    have h45 : c ≠ 45 := by omega
    have h43 : c ≠ 43 := by omega
    -- `Url.maxIntDigits - 1`: the digits after the first
    have : cs.length ≤ 4299 := by simp only [List.length_cons] at hlen; omega
    simp [h45, h43, intDigits_digits hd, Url.maxIntDigits, this, hv]

/-! ## the Latin-1 presentation of UTF-8 text and what `Subpaths` does to it -/

def encChar (c : Nat) : List Nat := (Url.utf8EncodeChar c).getD []

/-- the UTF-8 bytes of a text, read as Latin-1 (what PATH_INFO / SCRIPT_NAME carry) -/
def enc (t : Str) : Str := t.flatMap encChar

def Scalar (t : Str) : Prop := ∀ c ∈ t, Url.isScalar c = true
def Ascii (t : Str) : Prop := ∀ c ∈ t, c < 128

instance (t : Str) : Decidable (Scalar t) := by unfold Scalar; infer_instance
instance (t : Str) : Decidable (Ascii t) := by unfold Ascii; infer_instance

theorem utf8Encode_enc {t : Str} (h : Scalar t) : Url.utf8Encode t = some (enc t) := by
  induction t with
  | nil => rfl
  | cons c cs ih =>
    obtain ⟨e, he⟩ := Url.utf8EncodeChar_scalar (h c (by simp))
    have := ih (fun x hx => h x (by simp [hx]))
    simp [Url.utf8Encode, he, this, enc, encChar]

theorem enc_append (a b : Str) : enc (a ++ b) = enc a ++ enc b := by simp [enc]

theorem encChar_small {c : Nat} (hc : c < 128) : encChar c = [c] := by
  simp [encChar, Url.utf8EncodeChar, hc]

theorem ascii_scalar {p : Str} (h : Ascii p) : Scalar p :=
  fun c hc => Url.isScalar_iff.mpr (by have := h c hc; omega)

theorem enc_ascii {p : Str} (h : Ascii p) : enc p = p :=
  Option.some.inj ((utf8Encode_enc (ascii_scalar h)).symm.trans (Url.utf8Encode_ascii p h))

theorem encChar_big {c : Nat} (hs : Url.isScalar c = true) (hc : 128 ≤ c) :
    ∃ b bs, encChar c = b :: bs ∧ 128 ≤ b := by
  obtain ⟨e, he⟩ := Url.utf8EncodeChar_scalar hs
  have hseq := Url.utf8EncodeChar_seq he
  rw [encChar, he, Option.getD_some]
  rcases hseq.ascii_or_high with ⟨h, _⟩ | h
  · omega
  · match e, hseq.ne_nil, h with
    | b :: bs, _, h => exact ⟨b, bs, rfl, h b (by simp)⟩

theorem prefix_enc {p : Str} (hp : Ascii p) {t : Str} (ht : Scalar t) :
    p.isPrefixOf (enc t) = p.isPrefixOf t := by
  induction p generalizing t with
  | nil => simp
  | cons c cs ih =>
    have hc : c < 128 := hp c (by simp)
    have hcs : Ascii cs := fun x hx => hp x (by simp [hx])
    cases t with
    | nil => simp [enc]
    | cons d ds =>
      have hd := ht d (by simp)
      have hds : Scalar ds := fun x hx => ht x (by simp [hx])
      simp only [enc, List.flatMap_cons]
      by_cases hd128 : d < 128
      · rw [encChar_small hd128]
        simp only [List.singleton_append, List.isPrefixOf_cons_cons]
        have := ih hcs hds
        simp only [enc] at this
        rw [this]
      · obtain ⟨b, bs, hb, hb128⟩ := encChar_big hd (by omega)
        rw [hb]
        simp only [List.cons_append, List.isPrefixOf_cons_cons]
        have h1 : (c == b) = false := by simp; omega
        have h2 : (c == d) = false := by simp; omega
        simp [h1, h2]

theorem enc_eq_nil {t : Str} (ht : Scalar t) (h : enc t = []) : t = [] :=
  List.eq_nil_iff_forall_not_mem.mpr fun c hc => by
    obtain ⟨e, he⟩ := Url.utf8EncodeChar_scalar (ht c hc)
    have := List.flatMap_eq_nil_iff.mp h c hc
    rw [encChar, he] at this
    exact (Url.utf8EncodeChar_seq he).ne_nil this

theorem enc_eq_ascii {p : Str} (hp : Ascii p) {t : Str} (ht : Scalar t) : enc t = p ↔ t = p := by
  constructor
  · intro h
    have hpre : p.isPrefixOf t = true := by rw [← prefix_enc hp ht, h]; simp
    obtain ⟨u, rfl⟩ := List.isPrefixOf_iff_prefix.mp hpre
    rw [enc_append, enc_ascii hp, List.append_right_eq_self] at h
    rw [enc_eq_nil (fun c hc => ht c (List.mem_append_right _ hc)) h, List.append_nil]
  · rintro rfl
    exact enc_ascii hp

/-- the selection test of `BaseSubpaths.search`; through C09's `source_pinned`, so any spelling of the
segment-boundary rule will do -/
theorem searchPred_enc {pre : Str} (hp : Ascii pre) {path : Str} (ht : Scalar path) :
    Gen.Mount.searchPred (enc path) pre = Gen.Mount.searchPred path pre := by
  rw [Bool.eq_iff_iff, Mount.source_pinned, Mount.source_pinned]
  unfold Mount.Boundary
  have h1 := enc_eq_ascii hp ht
  have h2 : (pre ++ [47]) <+: enc path ↔ (pre ++ [47]) <+: path := by
    have := prefix_enc (p := pre ++ [47]) (List.forall_mem_append.mpr ⟨hp, by decide⟩) ht
    rw [Bool.eq_iff_iff] at this
    simpa [List.isPrefixOf_iff_prefix] using this
  rw [h1, h2]

mutual
def asciiApp : Mount.App → Bool
  | .leaf _ => true
  | .mount t => asciiMount t
  | .hosts t => asciiHosts t
def asciiMount : List (Str × Mount.App) → Bool
  | [] => true
  | (pre, a) :: rest => decide (Ascii pre) && asciiApp a && asciiMount rest
def asciiHosts : List (Nat × Mount.App) → Bool
  | [] => true
  | (_, a) :: rest => asciiApp a && asciiHosts rest
end

/-- the request as the WSGI tree sees it -/
def encReq (rq : Mount.Req) : Mount.Req := { root := rq.root.map enc, path := enc rq.path, host := rq.host }

theorem encReq_path (rq : Mount.Req) : (encReq rq).path = enc rq.path := rfl

theorem encReq_hostD (rq : Mount.Req) : (encReq rq).hostD = rq.hostD := rfl

def encRes : Mount.Res → Mount.Res
  | .hit i rq => .hit i (encReq rq)
  | .notFound b rq => .notFound b (encReq rq)

/-- what the induction over the tree carries along -/
def ReqOK (rq : Mount.Req) : Prop := Scalar rq.path ∧ Scalar rq.rootD ∧ rq.root.isSome = true

theorem rewrite_enc {pre : Str} (hp : Ascii pre) {rq : Mount.Req} (hpre : pre <+: rq.path) :
    Mount.rewrite pre (encReq rq) = encReq (Mount.rewrite pre rq) := by
  simp only [Mount.rewrite, encReq, Mount.Req.rootD]
  congr 1
  · cases rq.root with
    | none => simp [enc_ascii hp]
    | some r0 => simp only [Option.map_some, Option.getD_some, enc_append, enc_ascii hp]
  · obtain ⟨u, hu⟩ := hpre
    rw [← hu, enc_append, enc_ascii hp]
    simp

theorem rewrite_ok {pre : Str} (hp : Ascii pre) {rq : Mount.Req} (h : ReqOK rq) : ReqOK (Mount.rewrite pre rq) := by
  obtain ⟨h1, h2, h3⟩ := h
  refine ⟨fun c hc => h1 c (List.mem_of_mem_drop hc), ?_, rfl⟩
  simp only [Mount.rewrite, Mount.Req.rootD, Option.getD_some]
  exact List.forall_mem_append.mpr ⟨h2, ascii_scalar hp⟩

def EncSpec (res resEnc : Mount.Res) : Prop :=
  resEnc = encRes res ∧ ReqOK res.req

theorem dispatch_enc_all (fm : Nat → Str → Bool) :
    (∀ a rq, asciiApp a = true → ReqOK rq →
      EncSpec (Mount.dispatch fm a rq) (Mount.dispatch fm a (encReq rq))) ∧
    (∀ t rq, asciiHosts t = true → ReqOK rq →
      EncSpec (Mount.dispatchHosts fm t rq) (Mount.dispatchHosts fm t (encReq rq))) ∧
    (∀ t rq, asciiMount t = true → ReqOK rq →
      EncSpec (Mount.dispatchMount fm t rq) (Mount.dispatchMount fm t (encReq rq))) := by
  apply Mount.dispatch.mutual_induct fm
  · intro i rq _ hrq          -- leaf
    exact ⟨by simp [Mount.dispatch, encRes], hrq⟩
  · intro t rq ih ha hrq      -- Subpaths node
    simpa only [Mount.dispatch] using ih (by simpa [asciiApp] using ha) hrq
  · intro t rq ih ha hrq      -- Hosts node
    simpa only [Mount.dispatch] using ih (by simpa [asciiApp] using ha) hrq
  · intro rq _ hrq            -- empty mount table
    exact ⟨by simp [Mount.dispatchMount, encRes], hrq⟩
  · intro pre a rest rq hp ih ha hrq     -- entry selected
    simp only [asciiMount, Bool.and_eq_true, decide_eq_true_eq] at ha
    obtain ⟨⟨hpre, haa⟩, _⟩ := ha
    simp only [Mount.dispatchMount, encReq_path, searchPred_enc hpre hrq.1, hp, if_true]
    rw [rewrite_enc hpre (Mount.boundary_prefix ((Mount.source_pinned _ _).mp hp))]
    exact ih haa (rewrite_ok hpre hrq)
  · intro pre a rest rq hp ih ha hrq     -- entry not selected
    simp only [asciiMount, Bool.and_eq_true, decide_eq_true_eq] at ha
    obtain ⟨⟨hpre, _⟩, hrest⟩ := ha
    simp only [Mount.dispatchMount, encReq_path, searchPred_enc hpre hrq.1, hp]
    exact ih hrest hrq
  · intro rq _ hrq            -- empty host table
    exact ⟨by simp [Mount.dispatchHosts, encRes], hrq⟩
  · intro i a rest rq hm ih ha hrq
    simp only [asciiHosts, Bool.and_eq_true] at ha
    simp only [Mount.dispatchHosts, encReq_hostD, hm, if_true]
    exact ih ha.1 hrq
  · intro i a rest rq hm ih ha hrq
    simp only [asciiHosts, Bool.and_eq_true] at ha
    simp only [Mount.dispatchHosts, encReq_hostD, hm]
    exact ih ha.2 hrq

/-! ## `Headers(...)` of a list in which every name occurs once -/

theorem headers_get (r : AbsRequest) (hnd : (r.headers.map fun nv => Headers.lower nv.1).Nodup) (t : Str)
    (ht : Headers.lower t = t) :
    Headers.getItem (Headers.initHeaders (r.headers.map lowerName)) t = headerGet r t := by
  rw [Headers.initHeaders_distinct]
  · rw [Headers.getItem, ht, Cookie.dictGet_find, find_lowered]; rfl
  · exact List.forall_mem_map.mpr fun nv _ => Headers.lower_idem nv.1
  · rw [List.map_map]; exact hnd

/-! ## removing the `connection` entries commutes with building the header mapping -/

def notConnection (k : Str) : Bool := Headers.lower k != s "connection"

theorem notConnection_lower (k : Str) : notConnection (Headers.lower k) = notConnection k := by simp [notConnection, Headers.lower_idem]

theorem mergeDict_filter (base extra : List (Str × Str)) :
    (mergeDict base extra).filter (fun kv => notConnection kv.1)
      = mergeDict (base.filter fun kv => notConnection kv.1) (extra.filter fun kv => notConnection kv.1) := by
  unfold mergeDict
  induction extra generalizing base with
  | nil => rfl
  | cons x xs ih =>
    obtain ⟨k, v⟩ := x
    simp only [List.foldl_cons]
    rw [ih, Cookie.filter_dictSet notConnection]
    by_cases hq : notConnection k = true <;> simp [hq]

theorem addCharset_filter (d : List (Str × Str)) (suf : Str × Str) (cs : Str) (hq : notConnection suf.1 = true) :
    (addCharset d suf cs).map (fun d' => d'.filter fun kv => notConnection kv.1)
      = addCharset (d.filter fun kv => notConnection kv.1) suf cs := by
  unfold addCharset
  rw [Cookie.dictGet_filter notConnection d hq]
  cases dictGet d suf.1 with
  | none => rfl
  | some v => simp [Cookie.filter_dictSet notConnection, hq]

theorem dictGet_mergeDict_some {base : List (Str × Str)} {k : Str} (extra : List (Str × Str))
    (h : (dictGet base k).isSome = true) : (dictGet (mergeDict base extra) k).isSome = true := by
  unfold mergeDict
  induction extra generalizing base with
  | nil => exact h
  | cons x xs ih =>
    refine ih ?_
    show (dictGet (dictSet base x.1 x.2) k).isSome = true
    by_cases hk : x.1 = k
    · rw [hk, Cookie.dictGet_set_same]; rfl
    · rwa [Cookie.dictGet_set_other _ _ _ _ hk]

/-- `{**required, **user}` with the charset appended under a key of `required` that is not `connection` -/
theorem addCharset_merge {base : List (Str × Str)} {suf : Str × Str} (hq : notConnection suf.1 = true)
    (hs : (dictGet base suf.1).isSome = true) (user : List (Str × Str)) (cs : Str) :
    ∃ d, addCharset (mergeDict base user) suf cs = some d ∧
      some (d.filter fun kv => notConnection kv.1) =
        addCharset (mergeDict (base.filter fun kv => notConnection kv.1) (user.filter fun kv => notConnection kv.1)) suf cs := by
  have hf := addCharset_filter (mergeDict base user) suf cs hq
  rw [mergeDict_filter] at hf
  cases hd : dictGet (mergeDict base user) suf.1 with
  | none => exact absurd (dictGet_mergeDict_some user hs) (by simp [hd])
  | some v =>
    have he : addCharset (mergeDict base user) suf cs = some (dictSet (mergeDict base user) suf.1 (v ++ suf.2 ++ cs)) := by
      simp [addCharset, hd]
    exact ⟨_, he, by rw [← hf, he]; rfl⟩

/-- only the keep-alive chunk differs between the interfaces -/
theorem wire_events (evs : List SSE.Event) : SSE.wire .asgi (evs.map SSE.Item.ev) = SSE.wire .wsgi (evs.map SSE.Item.ev) := by
  simp [SSE.wire, SSE.chunkOf, List.flatMap_map]

/-! ## `Files` / `Pages`: the two twins ask the same questions when the path is text -/

theorem requestPath_text {r : AbsRequest} {e : Environ} (he : toEnviron r = some e) :
    requestPathW e = .ok r.path := by
  obtain ⟨rp, p, env⟩ := env_shape he
  simp [requestPathW, env.pathInfo, Url.latin1Encode_of_lt (Url.utf8Encode_bytes env.path),
    Url.utf8DecodeStrict_encode env.path]

theorem redirectTo_text (w : Bool) {path : Str} (hp : Scalar path) :
    Static.redirectTo w path = .redirect (path ++ [47]) := by
  have : path.any Static.isSurrogate = false := by
    rw [List.any_eq_false]
    intro c hc
    have := Url.isScalar_iff.mp (hp c hc)
    simp only [Static.isSurrogate, Bool.and_eq_true, decide_eq_true_eq]
    omega
  simp [Static.redirectTo, this]

theorem serve_iface (dir cwd : Str) (pages : Bool) (fs : Static.FS) {path : Str} (hp : Scalar path) :
    Static.serve ⟨dir, cwd, pages, true⟩ fs path = Static.serve ⟨dir, cwd, pages, false⟩ fs path := by
  cases pages with
  | false => rfl
  | true =>
    simp only [Static.serve, if_true, Static.servePages, Static.pagesFinish, redirectTo_text _ hp]
    rfl

theorem notModified_iface (a : StaticApp) (m : FileMeta) (inm ims : Str) :
    notModified .asgi a m inm ims = notModified .wsgi a m inm ims := by
  have g1 : Gen.Conditional.imsFieldAsgi = Gen.Conditional.imsFieldWsgi := by decide
  have g2 : Gen.Conditional.inmPrecedenceAsgi = Gen.Conditional.inmPrecedenceWsgi := by decide
  simp only [notModified, Conditional.genCfg, g1, g2]

theorem routerSearch_found {rm : Nat → Str → RouteRes} {routes : List (Nat × Endpoint)} {path : Str} {ep : Endpoint}
    {p : Params} (h : routerSearch rm routes path = .found ep p) : ∃ i, (i, ep) ∈ routes := by
  induction routes with
  | nil => simp [routerSearch] at h
  | cons x xs ih =>
    obtain ⟨i, e0⟩ := x
    simp only [routerSearch] at h
    cases hm : rm i path with
    | noMatch => rw [hm] at h; obtain ⟨j, hj⟩ := ih h; exact ⟨j, by simp [hj]⟩
    | params q => rw [hm] at h; injection h with h1 h2; subst h1; exact ⟨i, by simp⟩
    | raised k => rw [hm] at h; cases h

end Baize.Equiv
