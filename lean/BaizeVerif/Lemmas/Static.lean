/-
Specification vocabulary and lemmas for C07 (static files).  The character-level `os.path` model of
`Model/Static.lean` is reduced to a few laws of `split`, `resolve`, `segsOf` over `a ++ 47 :: b` and
`urlOf`; `ensure_spec` (C07.0) states `ensure_absolute_path` with them, and `serve_files` / `serve_pages`
restate the two apps on locations.  In order: laws of `split`, `render`/`urlOf`; `resolve_*`; `segsOf_*`; the
`os.path` functions on rendered locations (`normpath_abs`, `abspath_of_abs`, `resolve_joinAll`,
`normpath_join_render`, `escapes_iff`, `relpath_render`); `ensure_spec`; `appendLast`, `primary`; `os.stat` and
`check_path_is_file` on a location (`chkAt_eq`, `chkAt_reg`, `chkAt_other`); `serve_files`; `chosen`, `serve_pages`.
-/
import BaizeVerif.Model.Static

namespace Baize.Static

/-- an ordinary segment name (47 is `/`); it may well start with dots: `..name`, `...`, `.hid` -/
def Ordinary (s : Str) : Prop := s ≠ [] ∧ s ≠ dot ∧ s ≠ pardir ∧ 47 ∉ s

/-- one step of lexical resolution on a location kept as a stack (last segment first); `..` at the root
stays there -/
def lexStep (st : List Str) (seg : Str) : List Str :=
  if seg = [] ∨ seg = dot then st else if seg = pardir then st.tail else seg :: st

/-- the location `path` denotes from `D` when resolved lexically (no file system involved) -/
def resolve (D : List Str) (path : Str) : List Str :=
  ((split path).foldl lexStep D.reverse).reverse

/-- the absolute path string of a location: `/a/b/c`, and `/` for the root -/
def render (S : List Str) : Str := 47 :: joinSlash S

/-- the URL path of the location `q` below the served directory: `/a/b` (empty for `[]`) -/
def urlOf (q : List Str) : Str := q.flatMap (fun s => 47 :: s)

/-- `a` is the path of `D` or of a location below it, written with ordinary segment names only (nothing
that could lead out again), optionally followed by one `/` -/
def Inside (D : List Str) (a : Str) : Prop :=
  ∃ rest : List Str, (∀ s ∈ rest, Ordinary s) ∧ (a = render (D ++ rest) ∨ a = render (D ++ rest) ++ [47])

/-- the name can be handed to the operating system: encodable, no NUL, shorter than PATH_MAX -/
def Servable (a : Str) : Prop := a.any badSurrogate = false ∧ a.any (· == 0) = false ∧ byteLen a < pathMax

/-- `s + suffix` on the last segment of a location -/
def appendLast (S : List Str) (suffix : Str) : List Str :=
  match S.reverse with
  | [] => []
  | l :: r => (r.reverse ++ [l ++ suffix])

theorem split_eq (s : Str) : split s = s.splitOn 47 := by
  induction s with
  | nil => rfl
  | cons c cs ih =>
    rw [split, List.splitOn_cons_eq_if_modifyHead, ih]
    cases h : List.splitOn 47 cs with
    | nil => exact absurd h (List.splitOn_ne_nil 47 cs)
    | cons p ps => simp [consHead]

theorem split_ne_nil (s : Str) : split s ≠ [] := by
  rw [split_eq]
  exact List.splitOn_ne_nil 47 s

theorem split_append_sep (a b : Str) : split (a ++ 47 :: b) = split a ++ split b := by
  simp only [split_eq]
  exact List.splitOn_append_cons_self a b

theorem split_of_nosep {s : Str} (h : 47 ∉ s) : split s = [s] := by
  rw [split_eq]
  exact List.splitOn_eq_singleton h

theorem urlOf_append (p q : List Str) : urlOf (p ++ q) = urlOf p ++ urlOf q := List.flatMap_append

theorem urlOf_nil : urlOf [] = [] := rfl

theorem urlOf_cons (s : Str) (q : List Str) : urlOf (s :: q) = 47 :: (s ++ urlOf q) := rfl

theorem split_append_urlOf (a : Str) {q : List Str} (hq : ∀ s ∈ q, 47 ∉ s) :
    split (a ++ urlOf q) = split a ++ q := by
  induction q generalizing a with
  | nil => simp [urlOf]
  | cons s q ih =>
    have h := ih (a ++ 47 :: s) (fun x hx => hq x (by simp [hx]))
    rw [split_append_sep, split_of_nosep (hq s (by simp))] at h
    simpa [urlOf_cons] using h

theorem mem_split_nosep {s x : Str} (h : x ∈ split s) : 47 ∉ x := by
  induction s generalizing x with
  | nil => simp [split] at h; simp [h]
  | cons c cs ih =>
    unfold split at h
    split at h
    · rcases List.mem_cons.mp h with rfl | h
      · simp
      · exact ih h
    · rename_i hc
      cases hs : split cs with
      | nil => exact absurd hs (split_ne_nil cs)
      | cons y ys =>
        rw [hs] at h ih
        rcases List.mem_cons.mp h with rfl | h
        · simpa [Ne.symm hc] using ih (List.mem_cons_self ..)
        · exact ih (List.mem_cons_of_mem _ h)

theorem joinSlash_cons (a : Str) (t : List Str) : joinSlash (a :: t) = a ++ urlOf t := by
  induction t generalizing a with
  | nil => simp [joinSlash, urlOf]
  | cons b t ih => simp [joinSlash, ih b, urlOf_cons]

theorem render_nil : render [] = [47] := rfl

theorem render_eq_urlOf {S : List Str} (hS : S ≠ []) : render S = urlOf S := by
  obtain ⟨a, t, rfl⟩ := List.exists_cons_of_ne_nil hS
  rw [render, joinSlash_cons, urlOf_cons]

theorem render_append {S : List Str} (hS : S ≠ []) (q : List Str) : render (S ++ q) = render S ++ urlOf q := by
  rw [render_eq_urlOf hS, render_eq_urlOf (by simp [hS]), urlOf_append]

theorem split_joinSlash {S : List Str} (hne : S ≠ []) (h : ∀ s ∈ S, 47 ∉ s) :
    split (joinSlash S) = S := by
  obtain ⟨a, t, rfl⟩ := List.exists_cons_of_ne_nil hne
  rw [joinSlash_cons, split_append_urlOf a (fun s hs => h s (by simp [hs])), split_of_nosep (h a (by simp))]
  rfl

theorem Ordinary.ne_nil {s : Str} (h : Ordinary s) : s ≠ [] := h.1
theorem Ordinary.nosep {s : Str} (h : Ordinary s) : 47 ∉ s := h.2.2.2

theorem lexStep_nil (st : List Str) : lexStep st [] = st := by simp [lexStep]

theorem lexStep_of_ordinary (st : List Str) {s : Str} (h : Ordinary s) : lexStep st s = s :: st := by
  unfold lexStep
  rw [if_neg (by simp [h.1, h.2.1]), if_neg h.2.2.1]

theorem resolve_nil (D : List Str) : resolve D [] = D := by simp [resolve, split, lexStep_nil]

theorem resolve_append_sep (D : List Str) (a b : Str) :
    resolve D (a ++ 47 :: b) = resolve (resolve D a) b := by
  simp [resolve, split_append_sep]

theorem resolve_append_slash (D : List Str) (a : Str) : resolve D (a ++ [47]) = resolve D a := by
  rw [resolve_append_sep, resolve_nil]

theorem resolve_cons_slash (D : List Str) (b : Str) : resolve D (47 :: b) = resolve D b := by
  rw [← List.nil_append (47 :: b), resolve_append_sep, resolve_nil]

theorem resolve_of_ordinary (D : List Str) {s : Str} (h : Ordinary s) : resolve D s = D ++ [s] := by
  simp [resolve, split_of_nosep h.nosep, lexStep_of_ordinary _ h]

theorem resolve_append_urlOf (D : List Str) (a : Str) {q : List Str} (hq : ∀ s ∈ q, Ordinary s) :
    resolve D (a ++ urlOf q) = resolve D a ++ q := by
  induction q generalizing a with
  | nil => simp [urlOf]
  | cons s q ih =>
    have h := ih (a ++ 47 :: s) (fun x hx => hq x (by simp [hx]))
    rw [resolve_append_sep, resolve_of_ordinary _ (hq s (by simp))] at h
    simpa [urlOf_cons] using h

theorem resolve_urlOf {D q : List Str} (hq : ∀ s ∈ q, Ordinary s) : resolve D (urlOf q) = D ++ q := by
  simpa [resolve_nil] using resolve_append_urlOf D [] hq

theorem resolve_render (D : List Str) {S : List Str} (hS : ∀ s ∈ S, Ordinary s) :
    resolve D (render S) = D ++ S := by
  cases S with
  | nil => simp [render_nil, resolve_cons_slash, resolve_nil]
  | cons a t => rw [render_eq_urlOf (by simp), resolve_urlOf hS]

theorem lexStep_ordinary {st : List Str} {c : Str} (hst : ∀ s ∈ st, Ordinary s) (hc : 47 ∉ c) :
    ∀ s ∈ lexStep st c, Ordinary s := by
  unfold lexStep
  split
  · exact hst
  · rename_i h1
    split
    · exact fun s hs => hst s (List.mem_of_mem_tail hs)
    · rename_i h2
      simp only [not_or] at h1
      exact List.forall_mem_cons.mpr ⟨⟨h1.1, h1.2, h2, hc⟩, hst⟩

theorem resolve_ordinary {D : List Str} (hD : ∀ s ∈ D, Ordinary s) (path : Str) :
    ∀ s ∈ resolve D path, Ordinary s := by
  intro s hs
  exact List.foldlRecOn (motive := fun st => ∀ s ∈ st, Ordinary s) (split path) lexStep (by simpa using hD)
    (fun st hst c hc => lexStep_ordinary hst (mem_split_nosep hc)) s (List.mem_reverse.mp hs)

theorem segsOf_append_sep (a b : Str) : segsOf (a ++ 47 :: b) = segsOf a ++ segsOf b := by
  simp [segsOf, split_append_sep]

theorem segsOf_nil : segsOf [] = [] := rfl

theorem segsOf_append_slash (s : Str) : segsOf (s ++ [47]) = segsOf s := by
  rw [segsOf_append_sep, segsOf_nil, List.append_nil]

theorem segsOf_cons_slash (s : Str) : segsOf (47 :: s) = segsOf s := by
  rw [← List.nil_append (47 :: s), segsOf_append_sep, segsOf_nil, List.nil_append]

theorem segsOf_joinSlash {S : List Str} (hS : ∀ s ∈ S, Ordinary s) : segsOf (joinSlash S) = S := by
  cases S with
  | nil => rfl
  | cons a t =>
    rw [segsOf, split_joinSlash (by simp) (fun s hs => (hS s hs).nosep), List.filter_eq_self]
    intro s hs
    simp [(hS s hs).ne_nil]

theorem segsOf_render {S : List Str} (hS : ∀ s ∈ S, Ordinary s) : segsOf (render S) = S := by
  rw [render, segsOf_cons_slash, segsOf_joinSlash hS]

theorem render_inj {S T : List Str} (hS : ∀ s ∈ S, Ordinary s) (hT : ∀ s ∈ T, Ordinary s)
    (h : render S = render T) : S = T := by
  rw [← segsOf_render hS, ← segsOf_render hT, h]

theorem slash_suffix_iff (x : Str) : ([47] : Str).isSuffixOf x = true ↔ x.getLast? = some 47 := by
  rw [List.isSuffixOf_iff_suffix, List.getLast?_eq_some_iff]
  exact ⟨fun ⟨t, h⟩ => ⟨t, h.symm⟩, fun ⟨t, h⟩ => ⟨t, h.symm⟩⟩

/-- a piece of a relative path; less than `Ordinary`, since the pieces of a relpath include `..` -/
def Piece (s : Str) : Prop := s ≠ [] ∧ 47 ∉ s

theorem Ordinary.piece {s : Str} (h : Ordinary s) : Piece s := ⟨h.1, h.2.2.2⟩

theorem getLast_ne_slash {b : Str} (hb : Piece b) (x : Str) : (x ++ b).getLast? ≠ some 47 := by
  rw [List.getLast?_append, List.getLast?_eq_some_getLast hb.1, Option.some_or]
  exact fun h => hb.2 (Option.some.inj h ▸ List.getLast_mem hb.1)

theorem getLast_urlOf {q : List Str} (hq : ∀ s ∈ q, Piece s) : (urlOf q).getLast? ≠ some 47 := by
  rcases List.eq_nil_or_concat q with rfl | ⟨q', l, rfl⟩
  · simp [urlOf]
  · have : urlOf (q'.concat l) = (urlOf q' ++ [47]) ++ l := by simp [urlOf]
    rw [this]
    exact getLast_ne_slash (hq l (by simp)) _

theorem render_getLast {S : List Str} (hS : ∀ s ∈ S, Ordinary s) (hne : S ≠ []) :
    (render S).getLast? ≠ some 47 := by
  rw [render_eq_urlOf hne]
  exact getLast_urlOf fun s hs => (hS s hs).piece

theorem isSuffixOf_render_append {x : Str} (hx : 47 ∉ x) {D q : List Str} (hD0 : D ≠ []) (hq0 : q ≠ []) :
    x.isSuffixOf (render (D ++ q)) = x.isSuffixOf (urlOf q) := by
  obtain ⟨a, t, rfl⟩ := List.exists_cons_of_ne_nil hq0
  rw [render_append hD0, urlOf_cons, Bool.eq_iff_iff, List.isSuffixOf_iff_suffix, List.isSuffixOf_iff_suffix]
  refine ⟨fun h => ?_, fun h => h.trans (List.suffix_append _ _)⟩
  rcases List.suffix_or_suffix_of_suffix h (List.suffix_append (render D) _) with h' | h'
  · exact h'
  · exact absurd (h'.subset (by simp)) hx

theorem joinSlash_head {S : List Str} (hS : ∀ s ∈ S, Ordinary s) (hne : S ≠ []) (x : Str) :
    (joinSlash S ++ x).head? ≠ some 47 := by
  obtain ⟨a, t, rfl⟩ := List.exists_cons_of_ne_nil hne
  have ha := hS a (by simp)
  obtain ⟨c, a', rfl⟩ := List.exists_cons_of_ne_nil ha.ne_nil
  simpa [joinSlash_cons] using fun e => ha.nosep (by simp [e])

theorem normStep_eq_lexStep {st : List Str} (c : Str) (hst : ∀ s ∈ st, Ordinary s) :
    normStep true st c = lexStep st c := by
  unfold normStep lexStep
  split
  · rfl
  · by_cases hc : c = pardir
    · have hh : st.head? ≠ some pardir := fun hh => (hst _ (List.mem_of_mem_head? hh)).2.2.1 rfl
      simp [hc, hh]
    · simp [hc]

theorem foldl_normStep_eq {st : List Str} {comps : List Str} (hst : ∀ s ∈ st, Ordinary s)
    (hc : ∀ c ∈ comps, 47 ∉ c) : comps.foldl (normStep true) st = comps.foldl lexStep st := by
  induction comps generalizing st with
  | nil => rfl
  | cons c cs ih =>
    simp only [List.foldl_cons]
    rw [normStep_eq_lexStep c hst]
    exact ih (lexStep_ordinary hst (hc c (by simp))) (fun x hx => hc x (by simp [hx]))

theorem initialSlashes_pos (r : Str) : 1 ≤ initialSlashes (47 :: r) := by
  unfold initialSlashes
  split <;> simp_all

theorem initialSlashes_slash {r : Str} (h : r.head? ≠ some 47) : initialSlashes (47 :: r) = 1 := by
  unfold initialSlashes
  split <;> simp_all

theorem normpath_abs (r : Str) :
    normpath (47 :: r) = List.replicate (initialSlashes (47 :: r)) 47 ++ joinSlash (resolve [] r) := by
  have hk := initialSlashes_pos r
  have hb : (initialSlashes (47 :: r) != 0) = true := by simp; omega
  have hout : List.replicate (initialSlashes (47 :: r)) 47 ++ joinSlash (resolve [] r) ≠ [] := by
    intro e
    have := congrArg List.length e
    simp at this
    omega
  unfold normpath
  rw [if_neg (by simp)]
  simp only [hb]
  rw [foldl_normStep_eq (by simp) (fun c hc => mem_split_nosep hc), ← resolve_cons_slash]
  exact if_neg hout

theorem normpath_slash {r : Str} (h : r.head? ≠ some 47) : normpath (47 :: r) = render (resolve [] r) := by
  rw [normpath_abs, initialSlashes_slash h]
  rfl

theorem segsOf_normpath_abs (r : Str) : segsOf (normpath (47 :: r)) = resolve [] r := by
  rw [normpath_abs]
  induction initialSlashes (47 :: r) with
  | zero => exact segsOf_joinSlash (resolve_ordinary (by simp) r)
  | succ k ih => rw [List.replicate_succ, List.cons_append, segsOf_cons_slash, ih]

theorem abspath_of_abs {cwd p : Str} (h : p.head? = some 47) : abspath cwd p = normpath p := by
  rw [abspath, if_pos h]

theorem segsOf_abspath_render (cwd : Str) {S : List Str} (hS : ∀ s ∈ S, Ordinary s) {x : Str}
    (hx : x = render S ∨ x = render S ++ [47]) : segsOf (abspath cwd x) = S := by
  have h := resolve_render [] hS
  rw [render, resolve_cons_slash] at h
  rcases hx with rfl | rfl <;> simp [abspath, render, segsOf_normpath_abs, resolve_append_slash, h]

theorem join2_of_rel {a b : Str} (hb : b.head? ≠ some 47) :
    join2 a b = if a = [] ∨ a.getLast? = some 47 then a ++ b else a ++ 47 :: b := by
  rw [join2, if_neg hb]

theorem join2_head {a b : Str} (ha : a.head? ≠ some 47) (hb : b.head? ≠ some 47) :
    (join2 a b).head? ≠ some 47 := by
  rw [join2_of_rel hb]
  cases a with
  | nil => simpa using hb
  | cons c cs => split <;> simpa using ha

theorem resolve_join2 (D : List Str) (a : Str) {b : Str} (hb : b.head? ≠ some 47) :
    resolve D (join2 a b) = resolve (resolve D a) b := by
  rw [join2_of_rel hb]
  split
  · rename_i h
    rcases h with rfl | h
    · simp [resolve_nil]
    · obtain ⟨a', rfl⟩ := List.getLast?_eq_some_iff.mp h
      rw [List.append_assoc, List.singleton_append, resolve_append_sep, resolve_append_slash]
  · exact resolve_append_sep D a b

theorem resolve_foldl_join2 (D : List Str) (t : List Str) (ht : ∀ s ∈ t, 47 ∉ s) (a : Str) :
    resolve D (t.foldl join2 a) = (t.foldl lexStep (resolve D a).reverse).reverse := by
  induction t generalizing a with
  | nil => simp
  | cons b t ih =>
    have hb := ht b (by simp)
    rw [List.foldl_cons, ih (fun s hs => ht s (by simp [hs])), resolve_join2 D a (fun h => hb (List.mem_of_mem_head? h))]
    simp [resolve, split_of_nosep hb]

theorem joinAll_head {L : List Str} (hL : ∀ s ∈ L, 47 ∉ s) : (joinAll L).head? ≠ some 47 := by
  cases L with
  | nil => simp [joinAll]
  | cons a t =>
    have hh : ∀ s ∈ a :: t, s.head? ≠ some 47 := fun s hs h => hL s hs (List.mem_of_mem_head? h)
    exact List.foldlRecOn (motive := fun x => x.head? ≠ some 47) t join2 (hh a (by simp))
      (fun x hx b hb => join2_head hx (hh b (by simp [hb])))

theorem resolve_joinAll (D : List Str) {L : List Str} (hL : ∀ s ∈ L, 47 ∉ s) :
    resolve D (joinAll L) = (L.foldl lexStep D.reverse).reverse := by
  cases L with
  | nil => simp [joinAll, resolve_nil]
  | cons a t =>
    rw [joinAll, resolve_foldl_join2 D t (fun s hs => hL s (by simp [hs])) a]
    simp [resolve, split_of_nosep (hL a (by simp))]

theorem foldl_join2_plain {t : List Str} (ht : ∀ s ∈ t, Piece s) {acc : Str} (h1 : acc ≠ [])
    (h2 : acc.getLast? ≠ some 47) : t.foldl join2 acc = acc ++ urlOf t := by
  induction t generalizing acc with
  | nil => simp [urlOf]
  | cons b t ih =>
    have hb := ht b (by simp)
    rw [List.foldl_cons, join2_of_rel (fun h => hb.2 (List.mem_of_mem_head? h)), if_neg (by simp [h1, h2]),
      ih (fun s hs => ht s (by simp [hs])) (by simp) (List.append_cons .. ▸ getLast_ne_slash hb _)]
    simp [urlOf_cons]

theorem joinAll_plain {L : List Str} (hL : ∀ s ∈ L, Piece s) : joinAll L = joinSlash L := by
  cases L with
  | nil => rfl
  | cons a t =>
    have ha := hL a (by simp)
    rw [joinSlash_cons, joinAll,
      foldl_join2_plain (fun s hs => hL s (by simp [hs])) ha.1 (by simpa using getLast_ne_slash ha [])]

theorem normpath_join_render {D : List Str} (hD : ∀ s ∈ D, Ordinary s) {inner : Str}
    (hi : inner.head? ≠ some 47) : normpath (join2 (render D) inner) = render (resolve D inner) := by
  rw [join2_of_rel hi]
  by_cases hne : D = []
  · subst hne
    simpa [render_nil] using normpath_slash hi
  · rw [if_neg (not_or.mpr ⟨show render D ≠ [] from List.cons_ne_nil _ _, render_getLast hD hne⟩)]
    show normpath (47 :: (joinSlash D ++ 47 :: inner)) = _
    rw [normpath_slash (joinSlash_head hD hne _), resolve_append_sep, ← resolve_cons_slash [] (joinSlash D)]
    show render (resolve (resolve [] (render D)) inner) = _
    rw [resolve_render [] hD, List.nil_append]

theorem commonLen_spec (a b : List Str) :
    commonLen a b ≤ a.length ∧ (commonLen a b = a.length ↔ a <+: b) := by
  induction a generalizing b with
  | nil => simp [commonLen]
  | cons x xs ih =>
    cases b with
    | nil => simp [commonLen]
    | cons y ys =>
      unfold commonLen
      split
      · rename_i h
        subst h
        simpa [List.cons_prefix_cons] using ih ys
      · rename_i h
        simp [List.cons_prefix_cons, h]

/-- the escape tests as the source has them, `rel == ".."` or `rel.startswith("../")`; a plain
`startswith("..")` would take `..name` for an escape (the proof fails if the literals change) -/
theorem escapes_eq (rel : Str) :
    escapes rel = (pardir == rel || (pardir ++ [47]).isPrefixOf rel) := by
  simp [escapes, Gen.Static.escEq, Gen.Static.escPrefix, pardir]

theorem escapes_iff (rel : Str) : escapes rel = true ↔ (split rel).head? = some pardir := by
  rw [escapes_eq, Bool.or_eq_true, beq_iff_eq, List.isPrefixOf_iff_prefix]
  constructor
  · rintro (rfl | ⟨r, rfl⟩)
    · rfl
    · rw [List.append_assoc, List.singleton_append, split_append_sep]
      rfl
  · intro h
    by_cases hm : 47 ∈ rel
    · obtain ⟨a, b, rfl, ha⟩ := List.eq_append_cons_of_mem hm
      rw [split_append_sep, split_of_nosep ha] at h
      obtain rfl : a = pardir := by simpa using h
      exact Or.inr ⟨b, by simp⟩
    · rw [split_of_nosep hm] at h
      exact Or.inl (by simpa using h.symm)

theorem escapes_joinAll {L : List Str} (hL : ∀ s ∈ L, Piece s) :
    escapes (if L = [] then dot else joinAll L) = true ↔ L.head? = some pardir := by
  split
  · rename_i h
    subst h
    simp [escapes_iff, split_of_nosep, dot, pardir]
  · rename_i h
    rw [escapes_iff, joinAll_plain hL, split_joinSlash h (fun s hs => (hL s hs).2)]

/-- The relative path starts with `..` iff the common prefix of `D` and `R` is shorter than `D`, that is iff `D` is
no prefix of `R`: the `cases` on `D.length - commonLen D R` below. -/
theorem relpath_render {cwd : Str} {D R : List Str} (hD : ∀ s ∈ D, Ordinary s)
    (hR : ∀ s ∈ R, Ordinary s) (abs : Str) (habs : abs = render R ∨ abs = render R ++ [47]) :
    ∃ rel, relpath cwd abs (render D) = some rel ∧ (escapes rel = true ↔ ¬ D <+: R) := by
  unfold relpath
  rw [if_neg (by rcases habs with rfl | rfl <;> simp [render])]
  simp only [segsOf_abspath_render cwd hD (Or.inl rfl), segsOf_abspath_render cwd hR habs]
  refine ⟨_, rfl, ?_⟩
  obtain ⟨hle, hiff⟩ := commonLen_spec D R
  rw [escapes_joinAll]
  · cases hn : D.length - commonLen D R with
    | zero =>
      have hp : D <+: R := hiff.mp (by omega)
      simp only [List.replicate_zero, List.nil_append, hp, not_true_eq_false, iff_false]
      exact fun h => (hR _ (List.mem_of_mem_drop (List.mem_of_mem_head? h))).2.2.1 rfl
    | succ n =>
      have hp : ¬ D <+: R := fun h => by have := hiff.mpr h; omega
      simp [List.replicate_succ, hp]
  · intro s hs
    rw [List.mem_append, List.mem_replicate] at hs
    rcases hs with ⟨_, rfl⟩ | hs
    · simp [Piece, pardir]
    · exact (hR s (List.mem_of_mem_drop hs)).piece

/-- the trailing-slash test as the source has it, `path.endswith("/")` (`keepSlash` also models a test
`path == "/"`, which lost the slash of `/dir/`; the proof fails if the test changes) -/
theorem keepSlash_eq (path : Str) : keepSlash path = ([47] : Str).isSuffixOf path := by
  simp [keepSlash, Gen.Static.slashTestIsSuffix, Gen.Static.slashLit]

/-- **C07.0** `ensure_absolute_path` returns the lexically resolved location (with the
trailing slash of the request put back) if that location is `D` or below `D`,
and `None` otherwise.  The test is on whole segments:
a name that merely starts with two dots stays inside (`dotdot_names_are_ordinary` in `Props/C07.lean`). -/
theorem ensure_spec (cfg : Cfg) {D : List Str} (hD : ∀ s ∈ D, Ordinary s)
    (hdir : cfg.dir = render D) (path : Str) :
    baseEnsure cfg path =
      .ok (if D <+: resolve D path
           then some (render (resolve D path) ++ (if keepSlash path then [47] else []))
           else none) := by
  have hsp : ∀ s ∈ split path, 47 ∉ s := fun s h => mem_split_nosep h
  have hhead := joinAll_head hsp
  have hres : resolve D (joinAll (split path)) = resolve D path := resolve_joinAll D hsp
  -- the absolute path is the rendered resolved location (`normpath_join_render`); then the escape test on the
  -- relative path is the prefix test (`relpath_render`)
  have habs0 : abspath cfg.cwd (join2 cfg.dir (joinAll (split path))) = render (resolve D path) := by
    rw [hdir, abspath_of_abs, normpath_join_render hD hhead, hres]
    rw [join2_of_rel hhead]
    split <;> simp [render]
  obtain ⟨rel, hrel, hesc⟩ := relpath_render (cwd := cfg.cwd) hD (resolve_ordinary hD path)
    (render (resolve D path) ++ (if keepSlash path then [47] else [])) (by split <;> simp)
  unfold baseEnsure
  simp only [habs0]
  rw [show (if keepSlash path = true then render (resolve D path) ++ [47] else render (resolve D path))
      = render (resolve D path) ++ (if keepSlash path then [47] else []) by split <;> simp, hdir, hrel]
  by_cases hp : D <+: resolve D path
  · have : escapes rel = false := by simpa [hp] using hesc
    simp [hp, this]
  · simp [hp, hesc.mpr hp]

/-- the point: a non-empty prefix of `.` or `..` is `.` or `..` -/
theorem Ordinary.append {l : Str} (h : Ordinary l) {x : Str} (hx : 47 ∉ x) : Ordinary (l ++ x) := by
  obtain ⟨h0, h1, h2, h3⟩ := h
  refine ⟨by simp [h0], fun e => ?_, fun e => ?_, by simp [h3, hx]⟩
  · rcases List.append_eq_singleton_iff.mp e with ⟨rfl, _⟩ | ⟨rfl, _⟩
    · exact h0 rfl
    · exact h1 rfl
  · rcases List.append_eq_cons_iff.mp e with ⟨rfl, _⟩ | ⟨l', rfl, e'⟩
    · exact h0 rfl
    · rcases List.append_eq_singleton_iff.mp e'.symm with ⟨rfl, _⟩ | ⟨rfl, _⟩
      · exact h1 rfl
      · exact h2 rfl

theorem appendLast_concat (S : List Str) (l x : Str) : appendLast (S ++ [l]) x = S ++ [l ++ x] := by
  simp [appendLast]

theorem appendLast_eq_concat {S : List Str} (hne : S ≠ []) (x : Str) :
    ∃ S' l, appendLast S x = S' ++ [l ++ x] := by
  obtain ⟨S', l, rfl⟩ := (List.eq_nil_or_concat S).resolve_left hne
  exact ⟨S', l, by rw [List.concat_eq_append, appendLast_concat]⟩

theorem render_appendLast {S : List Str} (hne : S ≠ []) (x : Str) :
    render (appendLast S x) = render S ++ x := by
  obtain ⟨S', l, rfl⟩ := (List.eq_nil_or_concat S).resolve_left hne
  simp [appendLast_concat, render_eq_urlOf, urlOf_append, urlOf_cons, urlOf_nil]

theorem appendLast_ordinary {S : List Str} (hS : ∀ s ∈ S, Ordinary s) {x : Str} (hx : 47 ∉ x) :
    ∀ s ∈ appendLast S x, Ordinary s := by
  rcases List.eq_nil_or_concat S with rfl | ⟨S', l, rfl⟩
  · simp [appendLast]
  · rw [List.concat_eq_append, List.forall_mem_append] at hS
    rw [List.concat_eq_append, appendLast_concat, List.forall_mem_append]
    exact ⟨hS.1, by simpa using (hS.2 l (by simp)).append hx⟩

theorem prefix_appendLast {D S : List Str} (hp : D <+: S) (hne : S ≠ D) (x : Str) :
    D <+: appendLast S x := by
  obtain ⟨rest, rfl⟩ := hp
  obtain ⟨r', l, rfl⟩ := (List.eq_nil_or_concat rest).resolve_left (fun e => hne (by simp [e]))
  rw [List.concat_eq_append, ← List.append_assoc, appendLast_concat, List.append_assoc]
  exact List.prefix_append _ _

theorem ordinary_index : Ordinary Gen.Static.indexName := by
  simp [Ordinary, Gen.Static.indexName, dot, pardir]

theorem ensureAbs_files (cfg : Cfg) (hp : cfg.pages = false) (path : Str) :
    ensureAbs cfg path = baseEnsure cfg path := by
  unfold ensureAbs
  split <;> simp_all

/-- the location `Pages` looks at first -/
def primary (path : Str) (R : List Str) : List Str :=
  if keepSlash path then R ++ [Gen.Static.indexName] else R

theorem primary_ordinary (path : Str) {R : List Str} (hR : ∀ s ∈ R, Ordinary s) :
    ∀ s ∈ primary path R, Ordinary s := by
  unfold primary
  split
  · exact List.forall_mem_append.mpr ⟨hR, by simpa using ordinary_index⟩
  · exact hR

theorem prefix_primary (path : Str) {D R : List Str} (hp : D <+: R) : D <+: primary path R := by
  unfold primary
  split
  · exact hp.trans (List.prefix_append _ _)
  · exact hp

theorem ensureAbs_pages (cfg : Cfg) (hp : cfg.pages = true) {D : List Str}
    (hD : ∀ s ∈ D, Ordinary s) (hD0 : D ≠ []) (hdir : cfg.dir = render D) (path : Str) :
    ensureAbs cfg path =
      .ok (if D <+: resolve D path then some (render (primary path (resolve D path))) else none) := by
  unfold ensureAbs
  rw [ensure_spec cfg hD hdir path]
  by_cases hpre : D <+: resolve D path
  · have hR0 := hpre.ne_nil hD0
    have hsl := render_getLast (resolve_ordinary hD path) hR0
    simp only [hpre, if_true, hp, Bool.true_and, Gen.Static.pagesSlashLit, primary]
    cases hk : keepSlash path
    · simp [Bool.eq_false_iff.mpr (mt (slash_suffix_iff _).mp hsl)]
    · simp [(slash_suffix_iff _).mpr, render_append hR0, urlOf]
  · simp [hpre]

/-- every exception (class, errno name) `os.stat` raises in this model -/
def statErrors : List (String × String) :=
  [("UnicodeEncodeError", ""), ("ValueError", ""), ("OSError", "ENAMETOOLONG"),
    ("NotADirectoryError", "ENOTDIR"), ("FileNotFoundError", "ENOENT")]

theorem osStat_raises {fs : FS} {a : Str} {cls errno : String} (h : osStat fs a = .raised cls errno) :
    (cls, errno) ∈ statErrors := by
  unfold osStat at h
  unfold statErrors
  grind

/-- the handlers of `check_path_is_file` (regenerated from the source) swallow all of them -/
theorem statErrors_caught : ∀ p ∈ statErrors, caught p.1 p.2 = true := by decide +kernel

theorem caught_all (fs : FS) (a : Str) (cls errno : String)
    (h : osStat fs a = .raised cls errno) : caught cls errno = true :=
  statErrors_caught (cls, errno) (osStat_raises h)

theorem checkPathIsFile_some (fs : FS) (a : Str) :
    checkPathIsFile fs (some a) =
      (match osStat fs a with
        | .reg c => Chk.reg c
        | .isDir => Chk.other
        | .raised _ _ => Chk.absent, [Access.stat a]) := by
  simp only [checkPathIsFile]
  cases h : osStat fs a with
  | reg c => rfl
  | isDir => rfl
  | raised cls errno => simp [caught_all fs a cls errno h]

theorem osStat_servable {fs : FS} {a : Str} (h : Servable a) :
    osStat fs a =
      match fs (segsOf a) with
      | .file c => if a.getLast? = some 47 then .raised "NotADirectoryError" "ENOTDIR" else .reg c
      | .dir => .isDir
      | .notDir => .raised "NotADirectoryError" "ENOTDIR"
      | .missing =>
        if (segsOf a).any (fun s => decide (nameMax < byteLen s)) then .raised "OSError" "ENAMETOOLONG"
        else .raised "FileNotFoundError" "ENOENT" := by
  obtain ⟨h1, h2, h3⟩ := h
  unfold osStat
  have h3' : ¬ pathMax ≤ byteLen a := by omega
  simp only [h1, h2, h3', Bool.false_eq_true, if_false]
  cases fs (segsOf a) <;> rfl

theorem osStat_not_servable {fs : FS} {a : Str} (h : ¬ Servable a) :
    ∃ cls e, osStat fs a = .raised cls e := by
  unfold osStat
  by_cases h1 : a.any badSurrogate = true
  · exact ⟨_, _, if_pos h1⟩
  · by_cases h2 : a.any (· == 0) = true
    · exact ⟨_, _, by rw [if_neg h1, if_pos h2]⟩
    · by_cases h3 : pathMax ≤ byteLen a
      · exact ⟨_, _, by rw [if_neg h1, if_neg h2, if_pos h3]⟩
      · exact absurd ⟨(Bool.not_eq_true _).mp h1, (Bool.not_eq_true _).mp h2, by omega⟩ h

instance (a : Str) : Decidable (Servable a) := by unfold Servable; infer_instance

/-- what `check_path_is_file` finds at the location `S` -/
def chkAt (fs : FS) (S : List Str) : Chk := (checkPathIsFile fs (some (render S))).1

theorem checkPathIsFile_render (fs : FS) (S : List Str) :
    checkPathIsFile fs (some (render S)) = (chkAt fs S, [.stat (render S)]) := by
  rw [chkAt, checkPathIsFile_some]

theorem chkAt_ne_raised (fs : FS) (S : List Str) (cls : String) : chkAt fs S ≠ .raised cls := by
  rw [chkAt, checkPathIsFile_some]
  split <;> simp

theorem chkAt_eq {fs : FS} {S : List Str} (hS : ∀ s ∈ S, Ordinary s) (hne : S ≠ []) :
    chkAt fs S =
      if Servable (render S) then
        match fs S with
        | .file c => .reg c
        | .dir => .other
        | _ => .absent
      else .absent := by
  rw [chkAt, checkPathIsFile_some]
  by_cases hs : Servable (render S)
  · rw [osStat_servable hs, segsOf_render hS, if_pos hs]
    cases fs S <;> simp only [if_neg (render_getLast hS hne)]
    cases S.any fun s => decide (nameMax < byteLen s) <;> rfl
  · obtain ⟨cls, e, he⟩ := osStat_not_servable (fs := fs) hs
    rw [he, if_neg hs]

theorem chkAt_reg {fs : FS} {S : List Str} (hS : ∀ s ∈ S, Ordinary s) (hne : S ≠ []) (c : List Nat) :
    chkAt fs S = .reg c ↔ Servable (render S) ∧ fs S = .file c := by
  rw [chkAt_eq hS hne]
  split
  · cases fs S <;> simp [*]
  · simp [*]

theorem chkAt_other {fs : FS} {S : List Str} (hS : ∀ s ∈ S, Ordinary s) (hne : S ≠ []) :
    chkAt fs S = .other ↔ Servable (render S) ∧ fs S = .dir := by
  rw [chkAt_eq hS hne]
  split
  · cases fs S <;> simp [*]
  · simp [*]

theorem osStat_slash_not_reg (fs : FS) (a : Str) (c : List Nat) : osStat fs (a ++ [47]) ≠ .reg c := by
  by_cases hs : Servable (a ++ [47])
  · rw [osStat_servable hs]
    cases fs (segsOf (a ++ [47])) <;> simp
    split <;> simp
  · obtain ⟨cls, e, he⟩ := osStat_not_servable (fs := fs) hs
    simp [he]

/-- `Files` on locations: it stats `resolve D path` only, and only at or below `D` -/
theorem serve_files (cfg : Cfg) (hp : cfg.pages = false) {D : List Str} (hD : ∀ s ∈ D, Ordinary s)
    (hdir : cfg.dir = render D) (fs : FS) (path : Str) :
    (serve cfg fs path).resp =
        (if D <+: resolve D path ∧ keepSlash path = false then
          match chkAt fs (resolve D path) with
          | .reg c => .file c
          | _ => .notFound
        else .notFound) ∧
      ∀ a ∈ (serve cfg fs path).log, D <+: resolve D path ∧
        (a.path = render (resolve D path) ∨ a.path = render (resolve D path) ++ [47]) := by
  unfold serve serveFiles
  simp only [hp, Bool.false_eq_true, if_false, ensureAbs_files cfg hp, ensure_spec cfg hD hdir]
  by_cases hpre : D <+: resolve D path
  · simp only [hpre, if_true, true_and]
    cases hk : keepSlash path
    · simp only [Bool.false_eq_true, if_false, List.append_nil, checkPathIsFile_render]
      cases h : chkAt fs (resolve D path) with
      | raised cls => exact absurd h (chkAt_ne_raised _ _ _)
      | _ => simp [Access.path]
    · simp only [if_true, checkPathIsFile_some]
      cases h : osStat fs (render (resolve D path) ++ [47]) with
      | reg c => exact absurd h (osStat_slash_not_reg _ _ _)
      | _ => simp [Access.path]
  · simp [hpre, checkPathIsFile]

/-- the location `Pages` settles on: `P` or its `.html` sibling -/
def chosen (fs : FS) (D P : List Str) : List Str :=
  if chkAt fs P = .absent ∧ Gen.Static.htmlSuffixTest.isSuffixOf (render P) = false ∧ P ≠ D
  then appendLast P Gen.Static.htmlSuffix else P

/-- the answer of `Pages` for what it found at the location it settled on -/
def chkResp (wsgi : Bool) (path : Str) : Chk → Resp
  | .reg c => .file c
  | .other => redirectTo wsgi path
  | .absent => .notFound
  | .raised cls => .crash cls

/-- `Pages` on locations: it stats `primary path R` and `chosen fs D (primary path R)` only -/
theorem serve_pages (cfg : Cfg) (hp : cfg.pages = true) {D : List Str} (hD : ∀ s ∈ D, Ordinary s)
    (hD0 : D ≠ []) (hdir : cfg.dir = render D) (fs : FS) (path : Str) :
    (serve cfg fs path).resp =
        (if D <+: resolve D path then
          chkResp cfg.wsgi path (chkAt fs (chosen fs D (primary path (resolve D path))))
        else .notFound) ∧
      ∀ a ∈ (serve cfg fs path).log, D <+: resolve D path ∧
        (a.path = render (primary path (resolve D path)) ∨
          a.path = render (chosen fs D (primary path (resolve D path)))) := by
  unfold serve servePages
  simp only [hp, if_true, ensureAbs_pages cfg hp hD hD0 hdir]
  by_cases hpre : D <+: resolve D path
  · simp only [hpre, if_true, true_and, checkPathIsFile_render]
    generalize hP : primary path (resolve D path) = P
    have hPo : ∀ s ∈ P, Ordinary s := hP ▸ primary_ordinary path (resolve_ordinary hD path)
    have hP0 : P ≠ [] := (hP ▸ prefix_primary path hpre).ne_nil hD0
    cases h : chkAt fs P with
    | raised cls => exact absurd h (chkAt_ne_raised _ _ _)
    | reg c => simp [pagesFinish, chkResp, chosen, h, Access.path]
    | other => simp [pagesFinish, chkResp, chosen, h, Access.path]
    | absent =>
      have hcond : (!Gen.Static.htmlSuffixTest.isSuffixOf (render P) && render P != cfg.dir) = true ↔
          Gen.Static.htmlSuffixTest.isSuffixOf (render P) = false ∧ P ≠ D := by
        have : render P = render D ↔ P = D := ⟨render_inj hPo hD, fun e => e ▸ rfl⟩
        simp [hdir, this]
      by_cases hf : Gen.Static.htmlSuffixTest.isSuffixOf (render P) = false ∧ P ≠ D
      · rw [chosen, if_pos ⟨h, hf⟩]
        simp only [if_pos (hcond.mpr hf), ← render_appendLast hP0, checkPathIsFile_render]
        cases chkAt fs (appendLast P Gen.Static.htmlSuffix) <;> simp [pagesFinish, chkResp, Access.path]
      · rw [chosen, if_neg (fun x => hf x.2)]
        simp only [if_neg (mt hcond.mp hf)]
        simp [chkResp, h, Access.path]
  · simp [hpre]

theorem chosen_eq (fs : FS) (D P : List Str) :
    chosen fs D P = P ∨ (P ≠ D ∧ chosen fs D P = appendLast P Gen.Static.htmlSuffix) := by
  unfold chosen
  split
  · rename_i h
    exact Or.inr ⟨h.2.2, rfl⟩
  · exact Or.inl rfl

theorem chosen_ordinary (fs : FS) (D : List Str) {P : List Str} (hP : ∀ s ∈ P, Ordinary s) :
    ∀ s ∈ chosen fs D P, Ordinary s := by
  rcases chosen_eq fs D P with h | ⟨_, h⟩ <;> rw [h]
  · exact hP
  · exact appendLast_ordinary hP (by decide)

theorem prefix_chosen (fs : FS) {D P : List Str} (hp : D <+: P) : D <+: chosen fs D P := by
  rcases chosen_eq fs D P with h | ⟨hne, h⟩ <;> rw [h]
  · exact hp
  · exact prefix_appendLast hp hne _

/-- after a trailing slash `Pages` looks at `index.html`, which ends in `.html`: no fallback -/
theorem chosen_index (fs : FS) (D : List Str) {R : List Str} (hR0 : R ≠ []) :
    chosen fs D (R ++ [Gen.Static.indexName]) = R ++ [Gen.Static.indexName] := by
  rw [chosen, if_neg]
  rintro ⟨_, h, _⟩
  have hs : Gen.Static.htmlSuffixTest <:+ Gen.Static.indexName := by decide
  rw [render_append hR0, urlOf_cons, urlOf_nil, List.append_nil,
    List.isSuffixOf_iff_suffix.mpr ((hs.trans (List.suffix_cons _ _)).trans (List.suffix_append _ _))] at h
  cases h

theorem redirectTo_cases (wsgi : Bool) (path : Str) :
    redirectTo wsgi path = .redirect (path ++ [47]) ∨
      (path.any isSurrogate = true ∧
        ((∃ cls, redirectTo wsgi path = .crash cls) ∨ redirectTo wsgi path = .redirectReplaced)) := by
  unfold redirectTo
  split
  · rename_i hs
    split
    · exact Or.inr ⟨hs, Or.inr rfl⟩
    · exact Or.inr ⟨hs, Or.inl ⟨_, rfl⟩⟩
  · exact Or.inl rfl

theorem chkResp_file {wsgi : Bool} {path : Str} {r : Chk} {c : List Nat} :
    chkResp wsgi path r = .file c ↔ r = .reg c := by
  cases r <;> simp [chkResp]
  rcases redirectTo_cases wsgi path with h | ⟨_, ⟨_, h⟩ | h⟩ <;> simp [h]

theorem chkResp_redirect {wsgi : Bool} {path t : Str} {r : Chk} (h : chkResp wsgi path r = .redirect t) :
    r = .other ∧ t = path ++ [47] := by
  cases r <;> simp [chkResp] at h
  rcases redirectTo_cases wsgi path with h' | ⟨_, ⟨_, h'⟩ | h'⟩ <;> simp_all

theorem keepSlash_urlOf {q : List Str} (hq : ∀ s ∈ q, Ordinary s) : keepSlash (urlOf q) = false := by
  rw [keepSlash_eq, Bool.eq_false_iff, Ne, slash_suffix_iff]
  exact getLast_urlOf fun s hs => (hq s hs).piece

theorem keepSlash_append_slash (x : Str) : keepSlash (x ++ [47]) = true := by
  rw [keepSlash_eq, slash_suffix_iff, List.getLast?_concat]

theorem serve_pages_urlOf (cfg : Cfg) (hp : cfg.pages = true) {D : List Str} (hD : ∀ s ∈ D, Ordinary s)
    (hD0 : D ≠ []) (hdir : cfg.dir = render D) (fs : FS) {q : List Str} (hq : ∀ s ∈ q, Ordinary s) :
    (serve cfg fs (urlOf q)).resp = chkResp cfg.wsgi (urlOf q) (chkAt fs (chosen fs D (D ++ q))) := by
  rw [(serve_pages cfg hp hD hD0 hdir fs _).1, resolve_urlOf hq, if_pos (List.prefix_append _ _), primary,
    keepSlash_urlOf hq, if_neg Bool.false_ne_true]

theorem Inside.segs_prefix {D : List Str} {a : Str} (h : Inside D a) (hD : ∀ s ∈ D, Ordinary s) :
    D <+: segsOf a := by
  obtain ⟨rest, hrest, ha⟩ := h
  have hall := List.forall_mem_append.mpr ⟨hD, hrest⟩
  rcases ha with rfl | rfl
  · rw [segsOf_render hall]; exact List.prefix_append D rest
  · rw [segsOf_append_slash, segsOf_render hall]; exact List.prefix_append D rest

theorem Inside.string_prefix {D : List Str} {a : Str} (h : Inside D a) (hD0 : D ≠ []) :
    render D <+: a := by
  obtain ⟨rest, _, ha⟩ := h
  rcases ha with rfl | rfl
  · rw [render_append hD0]; exact List.prefix_append _ _
  · rw [render_append hD0, List.append_assoc]; exact List.prefix_append _ _

end Baize.Static
