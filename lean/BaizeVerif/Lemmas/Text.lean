/-
Facts about lists of code points that several models use and none owns.
`Decimal.digits n` is `str(n)`: every model's decimal renderer equals it, and the `digitsVal` of every model that
reads its own numbers back (Cookie, Middleware, Router, SSE, Url) unfolds to the `foldl` of `foldl_digits`.
`List.strip_pad` is Python's `strip` written with `dropWhile`.
-/

namespace Baize.Decimal

def digits (n : Nat) : List Nat := (Nat.toDigits 10 n).map Char.toNat

theorem digits_eq_if (n : Nat) :
    digits n = if n < 10 then [48 + n] else digits (n / 10) ++ [48 + n % 10] := by
  unfold digits
  rw [Nat.toDigits_eq_if (by decide)]
  split
  · simp [Nat.toNat_digitChar_of_lt_ten, *]
  · simp [Nat.toNat_digitChar_of_lt_ten (Nat.mod_lt n (by decide))]

theorem digits_ne_nil (n : Nat) : digits n ≠ [] := by
  simp [digits, Nat.toDigits_ne_nil]

theorem mem_digits {n c : Nat} (h : c ∈ digits n) : 48 ≤ c ∧ c ≤ 57 := by
  obtain ⟨ch, hch, rfl⟩ := List.mem_map.mp h
  simpa [Char.isDigit, UInt32.le_iff_toNat_le] using Nat.isDigit_of_mem_toDigits (by decide) (by decide) hch

theorem foldl_digits (n : Nat) : (digits n).foldl (fun a d => a * 10 + (d - 48)) 0 = n := by
  induction n using Nat.strongRecOn with
  | _ n ih =>
    rw [digits_eq_if]
    split
    · simp
    · rw [List.foldl_append, ih (n / 10) (by omega)]
      simp only [List.foldl_cons, List.foldl_nil]
      omega

theorem length_digits_le_iff {n k : Nat} (hk : 0 < k) : (digits n).length ≤ k ↔ n < 10 ^ k := by
  simpa [digits] using Nat.length_toDigits_le_iff (b := 10) (n := n) (by decide) hk

/-- a renderer that peels off the last digit with fuel `f + 1` computes `digits n` as soon as
`n / 10 ≤ f`; what it does at fuel 0 is irrelevant -/
theorem eq_digits_of_fuel {r : Nat → Nat → List Nat}
    (hr : ∀ f n, r (f + 1) n = if n < 10 then [48 + n] else r f (n / 10) ++ [48 + n % 10]) :
    ∀ f n, n / 10 ≤ f → r (f + 1) n = digits n := by
  intro f
  induction f with
  | zero => intro n h; rw [hr, digits_eq_if, if_pos (by omega), if_pos (by omega)]
  | succ f ih =>
    intro n h
    rw [hr, digits_eq_if n]
    split
    · rfl
    · rw [ih (n / 10) (by omega)]

end Baize.Decimal

namespace List

variable {α : Type} {p : α → Bool}

theorem dropWhile_eq_self_of_head {l : List α} (h : ∀ c, l.head? = some c → p c = false) :
    l.dropWhile p = l := by
  cases l with
  | nil => rfl
  | cons x xs => simp [h x rfl]

theorem dropWhile_eq_nil_of_all {l : List α} (h : ∀ c ∈ l, p c = true) : l.dropWhile p = [] := by
  simpa using dropWhile_append_of_pos (l₂ := []) h

theorem strip_pad (p : α → Bool) {a m b : List α} (ha : ∀ c ∈ a, p c = true) (hb : ∀ c ∈ b, p c = true)
    (hh : ∀ c, m.head? = some c → p c = false) (hl : ∀ c, m.getLast? = some c → p c = false) :
    (((a ++ m ++ b).dropWhile p).reverse.dropWhile p).reverse = m := by
  rw [append_assoc, dropWhile_append_of_pos ha]
  cases m with
  | nil => simp [dropWhile_eq_nil_of_all hb]
  | cons x xs =>
    rw [dropWhile_eq_self_of_head (l := x :: xs ++ b) (by simpa using hh), reverse_append,
      dropWhile_append_of_pos (by simpa using hb),
      dropWhile_eq_self_of_head (by rw [head?_reverse]; exact hl), reverse_reverse]

/-- the stop comes by cases, as the callers have it (`b` is `[]` or a literal `x :: r`); `strip_pad` takes the same
condition through `head?`, as it needs its mirror image for `getLast?` -/
theorem span_append_stop {a b : List α} (ha : ∀ c ∈ a, p c = true)
    (hb : b = [] ∨ ∃ x r, b = x :: r ∧ p x = false) :
    (a ++ b).takeWhile p = a ∧ (a ++ b).dropWhile p = b := by
  rw [takeWhile_append_of_pos ha, dropWhile_append_of_pos ha]
  rcases hb with rfl | ⟨x, r, rfl, hx⟩ <;> simp [*]

end List
