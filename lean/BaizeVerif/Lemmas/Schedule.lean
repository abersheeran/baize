/-
C06, what the three transition systems share (no import: `Lemmas/Stream` and `Lemmas/StreamAsgi` build side by side).
-/

namespace Baize.Stream

/-- All three transition systems of C06 run a schedule as this fold (a blocked step is a no-op). -/
theorem foldl_getD_inv {σ τ : Type} {step : τ → σ → Option σ} {P : σ → Prop}
    (hstep : ∀ {t s s'}, P s → step t s = some s' → P s') (sched : List τ) {s : σ} (h : P s) :
    P (sched.foldl (fun s t => (step t s).getD s) s) := by
  induction sched generalizing s with
  | nil => exact h
  | cons t ts ih =>
    apply ih
    show P ((step t s).getD s)
    cases hs : step t s with
    | none => exact h
    | some s' => exact hstep h hs

/-! "What was delivered is 0, 1, 2, …" is written `List.range l.length = l` in all three systems. -/

theorem range_snoc (l : List Nat) (h : List.range l.length = l) :
    List.range (l ++ [l.length]).length = l ++ [l.length] := by
  simp [List.range_succ, h]

theorem range_snoc_of_eq {l : List Nat} {i : Nat} (h : List.range l.length = l) (hi : i = l.length) :
    List.range (l ++ [i]).length = l ++ [i] := by
  subst hi
  exact range_snoc l h

theorem prefix_range {l : List Nat} {p : Nat} (h : List.range l.length = l) (hp : l.length ≤ p) :
    l <+: List.range p := by
  obtain ⟨k, rfl⟩ := Nat.exists_eq_add_of_le hp
  rw [List.range_add, h]
  exact List.prefix_append _ _

end Baize.Stream
