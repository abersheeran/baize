/-
C13 — response headers cannot be split or smuggled.

`step`/`runOps` = the mutating operations of the response header mapping (item assignment, `del`, `append`, and the
`MutableMapping` mixins `update`, `setdefault`, `pop`, `popitem`, `clear`) on the model of `MutableHeaders`;
`Cookie.pair`/`attrs`/`line` = `Cookie.__str__`; `iriToUri` = `iri_to_uri`; `emit` = what `Response.__call__` /
`RedirectResponse` hand to `start_response` / `http.response.start`.
-/
import BaizeVerif.Lemmas.Headers

namespace Baize.Headers

open Cookie (Str dictSet dictGet)

/-- **tables** (over what was extracted from the sources on this run): CR, LF and NUL are in both control sets of
`__setitem__`; the joiners and the fixed header names/values contain none; `iri_to_uri`'s safe set turns every byte
0..255 into printable ASCII other than blank (a kept byte is in one of the two safe lists, so CR, LF, NUL and
non-ASCII bytes are never kept). -/
theorem table_facts :
    (13 ∈ Gen.Headers.keyControl ∧ 10 ∈ Gen.Headers.keyControl ∧ 0 ∈ Gen.Headers.keyControl) ∧
    (13 ∈ Gen.Headers.valueControl ∧ 10 ∈ Gen.Headers.valueControl ∧ 0 ∈ Gen.Headers.valueControl) ∧
    (∀ c ∈ Gen.Headers.appendJoiner ++ Gen.Headers.initJoiner ++ Gen.Headers.setCookieName ++
        Gen.Headers.redirectHeader_wsgi ++ Gen.Headers.emptyBodyHeader_wsgi ++ Gen.Headers.emptyBodyValue_wsgi,
      c ≠ 13 ∧ c ≠ 10 ∧ c ≠ 0) ∧
    (∀ b, b < 256 → ∀ c ∈ pctEncode b, 0x21 ≤ c ∧ c < 0x7f) ∧
    (∀ c ∈ Gen.Cookie.pairSep ++ Gen.Cookie.expiresPrefix ++ Gen.Cookie.maxAgePrefix ++ Gen.Cookie.domainPrefix ++
        Gen.Cookie.pathPrefix ++ Gen.Cookie.httponlyText ++ Gen.Cookie.secureText ++ Gen.Cookie.samesitePrefix ++
        Gen.Cookie.defaultPath ++ Cookie.strCps Gen.Cookie.defaultSamesite,
      32 ≤ c ∧ c < 127 ∧ c ≠ 59 ∧ c ≠ 44) := by
  refine ⟨ctl_in_sets.1, ctl_in_sets.2, by decide +kernel, fun b hb => pctEncode_printable hb, by decide +kernel⟩

/-- **tie to the source**: `MutableHeaders` defines exactly `__setitem__`, `__delitem__`, `append` (every other
mutator is the `collections.abc` mixin and so funnels through `__setitem__`), `append` assigns through `self[key]`
in both branches, both tests raise `ValueError`, keys are lower-cased on store and delete, `iri_to_uri` delegates to
`quote`, the two interfaces use the same header names and both escape the redirect target, and `Cookie.__str__`
passes both the name and the value through `_quote`. -/
theorem source_pinned :
    Gen.Headers.mutableHeadersMethods = ["__setitem__", "__delitem__", "append"] ∧
    Gen.Headers.mutableHeadersBases = ["Headers", "typing.MutableMapping[str, str]"] ∧
    Gen.Headers.appendViaSetitem = true ∧ Gen.Headers.controlException = "ValueError" ∧
    Gen.Headers.storeLowercasesKey = true ∧ Gen.Headers.delLowercasesKey = true ∧
    Gen.Headers.iriFunction = "quote" ∧
    Gen.Headers.redirectEscapes_wsgi = true ∧ Gen.Headers.redirectEscapes_asgi = true ∧
    Gen.Headers.redirectHeader_asgi = Gen.Headers.redirectHeader_wsgi ∧
    Gen.Headers.emptyBodyHeader_asgi = Gen.Headers.emptyBodyHeader_wsgi ∧
    Gen.Headers.emptyBodyValue_asgi = Gen.Headers.emptyBodyValue_wsgi ∧
    Gen.Cookie.joiner = [59, 32] ∧
    Gen.Cookie.nameQuoted = true ∧ Gen.Cookie.valueQuoted = true := by
  decide +kernel

/-- **C13.1a** every single mutating operation preserves "no stored key or value contains CR, LF or NUL". -/
theorem step_invariant (st : Hdrs) (op : Op) (hst : Clean st) : Clean (step st op).1 := by
  cases op with
  | set k v =>
    simp only [step]
    cases h : setItem st k v with
    | ok st' => exact setItem_clean hst h
    | error e => exact hst
  | append k v =>
    simp only [step]
    cases h : append st k v with
    | ok st' =>
      unfold append at h
      split at h <;> exact setItem_clean hst h
    | error e => exact hst
  | update kvs =>
    simp only [step]
    have := update_clean kvs st hst
    cases hu : update st kvs with
    | mk st' oe =>
      rw [hu] at this
      cases oe <;> exact this
  | setdefault k d =>
    simp only [step]
    cases hg : getItem st k with
    | some v => exact hst
    | none =>
      simp only
      cases h : setItem st k d with
      | ok st' => exact setItem_clean hst h
      | error e => exact hst
  | del k =>
    simp only [step]
    cases h : delItem st k with
    | ok st' => exact delItem_clean hst h
    | error e => exact hst
  | pop k d =>
    simp only [step]
    cases hg : getItem st k with
    | some v =>
      simp only
      cases h : delItem st k with
      | ok st' => exact delItem_clean hst h
      | error e => exact hst
    | none =>
      cases d <;> exact hst
  | popitem => exact popitem_clean hst
  | clear => exact clearFuel_clean _ st hst

/-- **C13.1** after any sequence of mutating operations on a control-free mapping, the final mapping — and the
mapping after each single operation (the recorded `dirty` flags) — holds no CR, LF or NUL in any key or value. -/
theorem mapping_invariant (ops : List Op) : ∀ st : Hdrs, Clean st →
    Clean (runOps st ops).1 ∧ ∀ o ∈ (runOps st ops).2, o.2 = false := by
  induction ops with
  | nil => intro st h; exact ⟨h, by intro o ho; cases ho⟩
  | cons op ops ih =>
    intro st hst
    have h1 := step_invariant st op hst
    obtain ⟨h2, h3⟩ := ih (step st op).1 h1
    refine ⟨h2, ?_⟩
    intro o ho
    simp only [runOps, List.mem_cons] at ho
    rcases ho with h | h
    · rw [h]; exact dirty_of_clean h1
    · exact h3 o h

example : (runOps [] [.set [65] [49], .append [97] [50, 13], .update [([98], [51]), ([99, 10], [52])],
      .setdefault [100] [0], .pop [97] none]).1 = [([98], [51])] := by decide

/-- **C13.1b** rejected at the point of mutation: an operation that would store a string with CR, LF or NUL returns
`ValueError` and leaves the mapping as it was — item assignment and `append` for a bad key or value, `setdefault`
for a bad key (on a clean mapping the key cannot be present) and for a bad default whenever the key is absent (when
it is present nothing is stored). -/
theorem rejected_at_mutation (st : Hdrs) (k v : Str) :
    ((HasCtl k ∨ HasCtl v) → step st (.set k v) = (st, .err .valueError)) ∧
    ((HasCtl k ∨ HasCtl v) → step st (.append k v) = (st, .err .valueError)) ∧
    (Clean st → HasCtl k → step st (.setdefault k v) = (st, .err .valueError)) ∧
    (getItem st k = none → HasCtl v → step st (.setdefault k v) = (st, .err .valueError)) := by
  refine ⟨?_, ?_, ?_, ?_⟩
  · intro h
    simp only [step, setItem_hasCtl st h]
  · intro h
    simp only [step, append]
    cases hg : getItem st k with
    | some old =>
      have hv : HasCtl k ∨ HasCtl (old ++ Gen.Headers.appendJoiner ++ v) :=
        h.imp_right fun ⟨c, hc, hcc⟩ => ⟨c, List.mem_append_right _ hc, hcc⟩
      simp only [setItem_hasCtl st hv]
    | none => simp only [setItem_hasCtl st h]
  · intro hst hk
    have hnone : getItem st k = none := by
      cases hg : getItem st k with
      | none => rfl
      | some old => exact (not_noCtl_of_HasCtl (HasCtl_lower hk) (hst _ (Cookie.dictGet_mem hg)).1).elim
    simp only [step, hnone, setItem_hasCtl st (Or.inl hk)]
  · intro hnone hv
    simp only [step, hnone, setItem_hasCtl st (Or.inr hv)]

example : step [([97], [49])] (.append [65] [50, 13, 10, 120]) = ([([97], [49])], .err .valueError) := by decide

/-- **C13.1c** `update` with a pair that carries CR, LF or NUL returns `ValueError` (the pairs before the first
offending one have been stored — they are clean, see `step_invariant`). -/
theorem update_rejected (kvs : List (Str × Str)) : ∀ st : Hdrs,
    (∃ kv ∈ kvs, HasCtl kv.1 ∨ HasCtl kv.2) → (step st (.update kvs)).2 = .err .valueError := by
  have key : ∀ (kvs : List (Str × Str)) (st : Hdrs), (∃ kv ∈ kvs, HasCtl kv.1 ∨ HasCtl kv.2) →
      (update st kvs).2 = some .valueError := by
    intro kvs
    induction kvs with
    | nil => intro st ⟨kv, h, _⟩; cases h
    | cons hd rest ih =>
      intro st ⟨kv, hmem, hbad⟩
      obtain ⟨k, v⟩ := hd
      unfold update
      cases hs : setItem st k v with
      | error e => simp only [setItem_err hs]
      | ok st' =>
        simp only
        apply ih
        rcases List.mem_cons.mp hmem with rfl | h
        · rw [setItem_hasCtl st hbad] at hs
          cases hs
        · exact ⟨kv, h, hbad⟩
  intro st h
  have := key kvs st h
  simp only [step]
  cases hu : update st kvs with
  | mk st' oe =>
    rw [hu] at this
    simp only at this
    subst this
    rfl

/-- **C13.1d** an operation that answers with an error has not changed the mapping (except `update`, whose earlier
pairs stay — see `update_rejected`). -/
theorem error_leaves_unchanged (st : Hdrs) (op : Op) (e : Err) (hop : ∀ kvs, op ≠ .update kvs)
    (h : (step st op).2 = .err e) : (step st op).1 = st := by
  cases op with
  | set k v => simp only [step] at h ⊢; cases hs : setItem st k v <;> simp_all
  | append k v => simp only [step] at h ⊢; cases hs : append st k v <;> simp_all
  | update kvs => exact absurd rfl (hop kvs)
  | setdefault k d =>
    simp only [step] at h ⊢
    cases hg : getItem st k with
    | some v => rfl
    | none => simp only [hg] at h ⊢; cases hs : setItem st k d <;> simp_all
  | del k => simp only [step] at h ⊢; cases hs : delItem st k <;> simp_all
  | pop k d =>
    simp only [step] at h ⊢
    cases hg : getItem st k with
    | some v => simp only [hg] at h ⊢; cases hs : delItem st k <;> simp_all
    | none => cases d <;> rfl
  | popitem =>
    cases st with
    | nil => rfl
    | cons hd tl =>
      obtain ⟨k, v⟩ := hd
      simp only [step, popitem] at h ⊢
      cases hg : getItem ((k, v) :: tl) k with
      | none => simp
      | some val =>
        simp only [hg] at h ⊢
        cases hd : delItem ((k, v) :: tl) k with
        | ok st' => simp [hd] at h
        | error e' => simp
  | clear => simp [step] at h

/-- **C13.2a** for ANY name and value (any code points, no Latin-1 restriction), the `name=value` part of the
Set-Cookie line contains no CR, LF, NUL, no `;` and no `,`. -/
theorem cookie_pair_safe (c : Cookie.CookieRec) : ∀ x ∈ Cookie.pair c, PairSafe x := by
  intro x hx
  simp only [Cookie.pair, List.mem_append] at hx
  rcases hx with (h | h) | h
  · exact quote_pairSafe _ x h
  · rw [Cookie.pairSep_eq, List.mem_singleton] at h
    unfold PairSafe
    omega
  · exact quote_pairSafe _ x h

/-- **C13.2b** hence the line has exactly the attributes `__str__` appended: split at `;` (as every client does) it
is the `name=value` pair followed by precisely the appended attribute texts, each after one blank (`domain`, `path`,
`samesite` are outside the statement: they are assumed free of `;`). -/
theorem cookie_attrs_exact (c : Cookie.CookieRec) (hd : 59 ∉ c.domain) (hp : 59 ∉ c.path)
    (hs : 59 ∉ c.samesite) :
    Cookie.pieces 59 (Cookie.line c) = Cookie.pair c :: (Cookie.attrs c).map (32 :: ·) := by
  rw [Cookie.line, Cookie.joiner_eq]
  apply Cookie.pieces_join
  · intro h
    have := cookie_pair_safe c 59 h
    unfold PairSafe at this; omega
  · intro a ha h59
    rcases attr_chars c a ha 59 h59 with h | h | h | h
    · exact h.2.2 rfl
    · exact hd h
    · exact hp h
    · exact hs h

example : Cookie.pieces 59 (Cookie.line ⟨[97, 59, 32, 120, 61, 49], [13, 10, 83, 101, 116], none, -1, [], [47], false, false,
      Cookie.strCps "lax"⟩) =
    [[34, 97, 92, 48, 55, 51, 32, 120, 61, 49, 34, 61, 34, 92, 48, 49, 53, 92, 48, 49, 50, 83, 101, 116, 34],
     32 :: Cookie.strCps "path=/", 32 :: Cookie.strCps "samesite=lax"] := by decide +kernel

/-- **C13.2c** the whole Set-Cookie line is free of CR, LF, NUL for ANY name and value (given that `domain`, `path`,
`samesite` are). -/
theorem cookie_line_clean (c : Cookie.CookieRec) (hd : NoCtl c.domain) (hp : NoCtl c.path)
    (hs : NoCtl c.samesite) : NoCtl (Cookie.line c) := by
  intro x hx
  rcases line_chars c x hx with h | h | h | h | h | h | h
  · omega
  · unfold Plain at h; omega
  · have := quote_pairSafe _ x h; unfold PairSafe at this; omega
  · have := quote_pairSafe _ x h; unfold PairSafe at this; omega
  · exact hd x h
  · exact hp x h
  · exact hs x h

/-- **C13.3** for every redirect target (any code points): `iri_to_uri` either refuses it (a lone surrogate, which no
text contains) or returns printable ASCII other than blank — no CR, LF, NUL, no non-ASCII. -/
theorem redirect_safe (url u : Str) (h : iriToUri url = some u) : ∀ c ∈ u, 0x21 ≤ c ∧ c < 0x7f := by
  unfold iriToUri at h
  cases hb : utf8Encode url with
  | none => simp [hb] at h
  | some bs =>
    simp only [hb, Option.map_some, Option.some.injEq] at h
    subst h
    intro c hc
    obtain ⟨b, hbm, hcb⟩ := List.mem_flatMap.mp hc
    exact pctEncode_printable (utf8Encode_bytes url bs hb b hbm) c hcb

example : iriToUri [47, 120, 13, 10, 83, 58, 32, 20013] =
    some (Cookie.strCps "/x%0D%0AS:%20%E4%B8%AD") := by decide +kernel

/-- **C13.4** Build a `Response` or a `RedirectResponse` (any target) whose constructor headers — which are stored
unchecked, they are not a mutating operation — are control-free, apply ANY sequence of mutating operations to
`response.headers`, set ANY cookies (`set_cookie(name, value)`, any code points), call the response: every header
pair handed to `start_response` / sent in `http.response.start` is free of CR, LF and NUL. -/
theorem emitted_lines_clean (redirect : Option Str) (init : List (Str × Str)) (ops : List Op)
    (cookies : List (Str × Str)) (trace : List (Out × Bool)) (hs : List (Str × Str))
    (hinit : ∀ kv ∈ init, NoCtl kv.1 ∧ NoCtl kv.2)
    (h : emit redirect init ops cookies = .sent trace hs) :
    ∀ kv ∈ hs, NoCtl kv.1 ∧ NoCtl kv.2 := by
  obtain ⟨st1, st2, hb, -, hs2, rfl⟩ := emit_sent h
  have h0 := initHeaders_clean init hinit
  have hc1 : Clean st1 := by
    rcases hb with ⟨-, rfl⟩ | ⟨_, _, -, -, hs1⟩
    · exact h0
    · exact setItem_clean h0 hs1
  have hc2 := setItem_clean (mapping_invariant ops st1 hc1).1 hs2
  obtain ⟨-, hname, hpath, hsame⟩ := fixed_noCtl
  intro kv hkv
  simp only [listHeaders, List.mem_append] at hkv
  rcases hkv with hm | hm
  · exact hc2 kv hm
  · obtain ⟨c, hcm, rfl⟩ := List.mem_map.mp hm
    obtain ⟨nv, _, rfl⟩ := List.mem_map.mp hcm
    exact ⟨hname, cookie_line_clean (defaultCookie nv) noCtl_nil hpath hsame⟩

example : emit (some [47, 13, 10, 120]) [([88], [49])] [.set [97] [98, 10], .append [88] [50]]
      [([107, 59], [13, 10, 118])] =
    .sent [(.err .valueError, false), (.ok, false)]
      [([120], [49, 44, 32, 50]), (Cookie.strCps "location", Cookie.strCps "/%0D%0Ax"),
       (Cookie.strCps "content-length", [48]),
       (Cookie.strCps "set-cookie", Cookie.strCps "\"k\\073\"=\"\\015\\012v\"; path=/; samesite=lax")] := by
  decide +kernel

/-- **C13 on ASGI, text of any width**: the bytes presentation either refuses to emit (some text is outside
Latin-1: `UnicodeEncodeError`, no header line leaves the application) or emits exactly the clean lines of
`emitted_lines_clean` - one byte per character, so no CR, LF or NUL byte either. -/
theorem asgi_emit_refuses_or_clean (redirect : Option Str) (init : List (Str × Str)) (ops : List Op)
    (cookies : List (Str × Str)) (trace : List (Out × Bool)) (hs : List (Str × Str))
    (hinit : ∀ kv ∈ init, NoCtl kv.1 ∧ NoCtl kv.2)
    (h : emitAsgi redirect init ops cookies = .sent trace hs) :
    wideHeaders hs = false ∧ ∀ kv ∈ hs, NoCtl kv.1 ∧ NoCtl kv.2 := by
  unfold emitAsgi at h
  cases he : emit redirect init ops cookies with
  | crash k => rw [he] at h; cases h
  | sent t hs' =>
    rw [he] at h
    simp only at h
    by_cases hw : wideHeaders hs' = true
    · rw [if_pos hw] at h; cases h
    · rw [if_neg hw] at h
      cases h
      exact ⟨by simpa using hw, emitted_lines_clean redirect init ops cookies _ _ hinit he⟩

/-- wide text is refused on ASGI and passed through (clean) on WSGI -/
example : emitAsgi none [] [.set [120] [20013]] [] = .crash "UnicodeEncodeError" ∧
    (match emit none [] [.set [120] [20013]] [] with
     | .sent _ hs => hs.contains ([120], [20013])
     | _ => false) = true := by decide

end Baize.Headers
