/-
C02 — file responses deliver exactly the requested bytes with truthful framing.

The multipart part header, the closing line, the per-part trailer, the constants and the summands of
`content_length` are the generated `Gen.FileResponse.*`.  Hypotheses: `1 ≤ chunk` (chunk_size = 0 is an
application error: `range()` raises / the ASGI loop spins) and `st.size = file.length` (the file is the one that
was stat'ed).  The numbers C02.1 – C02.7 are those of DESIGN.md §3 C02 (8 and 9 tie the model to the source); the
theorems stand in the order in which they rest on each other.
-/
import BaizeVerif.Lemmas.FileResponse
import BaizeVerif.Props.C03

namespace Baize.FileResponse

open Baize.Gen.FileResponse

def exFile : Bytes := [200, 201, 202, 203, 204, 205, 206, 207, 208, 209, 210, 211]
/-- its stat: size 12, Last-Modified "D", ETag "ab" -/
def exStat : Stat := ⟨12, [68], [97, 98]⟩
/-- "bytes=0-0,9-10" (digit-count boundary 9/10) -/
def exMulti : Bytes := [98, 121, 116, 101, 115, 61, 48, 45, 48, 44, 57, 45, 49, 48]
/-- "bytes=4-7" -/
def exSingle : Bytes := [98, 121, 116, 101, 115, 61, 52, 45, 55]

/-- **C02.2a** WSGI, one range: the concatenated chunks are exactly `file[start:stop]`. -/
theorem wsgi_reader_exact (file : Bytes) (s e chunk : Nat) (hc : 1 ≤ chunk) :
    (wsgiReadRange s e chunk file).flatten = slice file s e := by
  unfold wsgiReadRange slice
  rw [readLoop_flatten, rangeLens_sum hc s e]

example : wsgiReadRange 1 8 3 exFile = [[201, 202, 203], [204, 205, 206], [207]] := by decide +kernel
example : wsgiReadRange 2 8 3 exFile = [[202, 203, 204], [205, 206, 207]] := by decide +kernel

/-- **C02.2b** WSGI, whole file: the concatenated chunks are exactly the file. -/
theorem wsgi_read_all_exact (file : Bytes) (chunk : Nat) (hc : 1 ≤ chunk) :
    (wsgiReadAll file.length chunk file).flatten = file := by
  -- in all, `⌈size / chunk⌉ · chunk ≥ size` bytes are asked for
  rw [wsgiReadAll, readLoop_flatten, List.map_const', List.sum_replicate_nat, pyRange, List.length_range',
    List.drop_zero]
  apply List.take_of_length_le
  have := Nat.lt_mul_div_succ (file.length - 0 + chunk - 1) hc
  rw [Nat.mul_add, Nat.mul_comm] at this
  omega

example : wsgiReadAll 12 4 exFile = [[200, 201, 202, 203], [204, 205, 206, 207], [208, 209, 210, 211]] := by
  decide +kernel
example : wsgiReadAll 12 5 exFile = [[200, 201, 202, 203, 204], [205, 206, 207, 208, 209], [210, 211]] := by
  decide +kernel

/-- **C02.2c** ASGI sendfile emulation with a count: the loop terminates and sends at least one body event,
`more_body` true on all but the last, which carries the caller's flag; the data is exactly `count` bytes from
`offset`. -/
theorem asgi_sendfile_exact (file : Bytes) (chunk fdPos offset count : Nat) (more : Bool) (hc : 1 ≤ chunk) :
    ∃ chunks, chunks ≠ [] ∧
      sendfile false file chunk fdPos (some offset) (some count) more = bodyEvents chunks more ∧
      chunks.flatten = (file.drop offset).take count :=
  sendfile_spec file chunk fdPos (some offset) (some count) more hc

example : sendfile false exFile 3 0 (some 2) (some 6) false =
    [.body [202, 203, 204] true, .body [205, 206, 207] false] := by decide +kernel
example : sendfile false exFile 3 0 (some 2) (some 0) true = [.body [] true] := by decide +kernel

/-- **C02.2d** ASGI sendfile emulation without count (whole file from a fresh descriptor):
terminates by the "short read ends the loop" rule, flags as above, data = the file. -/
theorem asgi_send_all_exact (file : Bytes) (chunk : Nat) (more : Bool) (hc : 1 ≤ chunk) :
    ∃ chunks, chunks ≠ [] ∧
      sendfile false file chunk 0 none none more = bodyEvents chunks more ∧
      chunks.flatten = file :=
  sendfile_spec file chunk 0 none none more hc

/-- a size that is a multiple of the chunk size: the loop ends with an empty final event -/
example : sendfile false exFile 4 0 none none false =
    [.body [200, 201, 202, 203] true, .body [204, 205, 206, 207] true, .body [208, 209, 210, 211] true,
     .body [] false] := by decide +kernel

/-- **C02.1b** the body rendered with the generated templates is, byte for byte, the one the property describes:
per range, in order, a part with the matching `Content-Range` and the slice; then the closing delimiter. -/
theorem multipart_body_spec (b ct : Bytes) (size : Nat) (rs : List (Nat × Nat)) (file : Bytes) :
    renderMultipart b ct size rs file = specMultipart b ct size rs file := by
  rw [renderMultipart, specMultipart, closing_eq, funext (specPart_eq b ct size file)]

example : renderMultipart [120] [97] 12 [(9, 11)] exFile =
    [45, 45, 120, 10, 67, 111, 110, 116, 101, 110, 116, 45, 84, 121, 112, 101, 58, 32, 97, 10,
     67, 111, 110, 116, 101, 110, 116, 45, 82, 97, 110, 103, 101, 58, 32, 98, 121, 116, 101, 115, 32,
     57, 45, 49, 48, 47, 49, 50, 10, 10, 209, 210, 10, 45, 45, 120, 45, 45, 10] := by decide +kernel

/-- **C02.1** the closed `content_length` formula of `generate_multipart` (generated from the source: constants
44 and 5, the summands) is the number of bytes of the body rendered with the generated part-header template, for
every list of in-file ranges — hence for all digit counts of start, end and size.  Of the hypothesis only
`r.2 ≤ file.length` is used; `r.1 < r.2` is there for what the statement means: it gives `0 < end`, and at
`end = 0` the `end - 1` of the model (0) is not Python's (`-1`). -/
theorem length_formula (b ct : Bytes) (size : Nat) (rs : List (Nat × Nat)) (file : Bytes)
    (h : ∀ r ∈ rs, r.1 < r.2 ∧ r.2 ≤ file.length) :
    (renderMultipart b ct size rs file).length = multipartContentLength b ct size rs := by
  -- 44: the literal bytes of one part as `specPart` writes it: `--` (2), five LFs, `Content-Type: ` (14),
  -- `Content-Range: ` (15), `bytes ` (6), `-`, `/`; it meets the generated 44 only in the `omega` at the end
  have hpart : ∀ r ∈ rs, (specPart b ct size file r).length =
      decLen r.1 + decLen (r.2 - 1) + (44 + b.length + ct.length + decLen size) + (r.2 - r.1) := by
    intro r hr
    rw [specPart, specContentRange]
    simp only [List.length_append, List.length_cons, List.length_nil, dec_length,
      slice_length file r.1 r.2 (h r hr).2]
    omega
  rw [multipart_body_spec, specMultipart, multipartContentLength, List.length_append, List.length_flatMap,
    List.map_congr_left hpart]
  simp only [List.length_append, List.length_cons, List.length_nil]
  omega

example : (renderMultipart [120] [97, 47, 98] 12 [(0, 1), (9, 11)] exFile).length = 114 ∧
    multipartContentLength [120] [97, 47, 98] 12 [(0, 1), (9, 11)] = 114 ∧
    (∀ r ∈ [(0, 1), (9, 11)], r.1 < r.2 ∧ r.2 ≤ exFile.length) := by decide +kernel

private theorem wsgi_body (ct b : Bytes) (chunk : Nat) (st : Stat) (file : Bytes) (plan : Plan)
    (hc : 1 ≤ chunk) (hs : st.size = file.length) :
    (wsgiRespond false ct b chunk st file plan).body = planBody ct b st file plan := by
  cases plan with
  | all =>
    show (wsgiReadAll st.size chunk file).flatten = file
    rw [hs]; exact wsgi_read_all_exact file chunk hc
  | single s e => exact wsgi_reader_exact file s e chunk hc
  | several rs =>
    -- flattening goes into the parts (`flatMap_assoc`), and the chunks of a part (its header, the reads of its
    -- range, its trailer) flatten to header ++ slice ++ trailer by `wsgi_reader_exact`
    simp only [wsgiRespond, WsgiResp.body, planBody, Bool.false_eq_true, if_false, renderMultipart,
      List.flatten_append, List.flatten_eq_flatMap (L := List.flatMap _ _), List.flatMap_assoc]
    simp [wsgi_reader_exact _ _ _ _ hc]
  | error status hdrs body => simp [wsgiRespond, WsgiResp.body, planBody]

private theorem asgi_body (zc : Bool) (ct b : Bytes) (chunk : Nat) (st : Stat) (file : Bytes) (plan : Plan)
    (hc : 1 ≤ chunk) :
    asgiBody file (asgiEvents zc false ct b chunk st file plan).tail = planBody ct b st file plan := by
  cases plan with
  | all => exact sendfile_bytes zc file chunk none none false hc
  | single s e => exact sendfile_bytes zc file chunk (some s) (some (e - s)) false hc
  | several rs =>
    -- the same for the events of a part (header event, the `sendfile` of its range, trailer event), by `sendfile_bytes`
    simp only [asgiEvents, planBody, Bool.false_eq_true, if_false, List.tail_cons, renderMultipart,
      asgiBody_append, asgiBody_flatMap, asgiBody_cons, sendfile_bytes _ _ _ _ _ _ hc,
      show asgiBody file [] = [] from rfl, Ev.bytes, Option.getD_some, List.append_nil, slice]
    -- the ASGI trailer and closing line are the same literals as the WSGI ones (`source_pinned`)
    rfl
  | error status hdrs body => simp [asgiEvents, asgiBody, Ev.bytes, planBody]

private theorem planOfRange_ok (hdr : Bytes) (st : Stat) : PlanOk st.size (planOfRange hdr st) := by
  rcases Range.parseRange_sound hdr st.size with h | h | ⟨_, rs, _, h, _, hc, _⟩
  · rw [planOfRange_malformed h]
    exact Or.inl rfl
  · rw [planOfRange_unsat h]
    exact Or.inr rfl
  · by_cases hlen : rs.length = 1
    · obtain ⟨⟨s, e⟩, rfl⟩ := List.length_eq_one_iff.mp hlen
      rw [planOfRange_single h]
      exact hc.bounds (s, e) List.mem_cons_self
    · rw [planOfRange_several h hlen]
      exact hc.bounds

/-- **C02.5** the Range header is honoured exactly when it is present and If-Range is absent or equals the quoted
ETag or the Last-Modified text; otherwise the plan is the whole file, when honoured it is what C03's resolution of
the header says. -/
theorem if_range_gate (range ifRange : Option Bytes) (st : Stat) :
    (wsgiPlan range ifRange st = .all ↔ ¬ Honoured range ifRange st) ∧
    (∀ r, range = some r → Honoured range ifRange st → wsgiPlan range ifRange st = planOfRange r st) := by
  cases range with
  | none => simp [wsgiPlan, Honoured]
  | some r =>
    cases ifRange with
    | none => simp [wsgiPlan, Honoured, planOfRange_ne_all]
    | some v =>
      have hh : Honoured (some r) (some v) st ↔ judgeIfRange v st = true := by simp [Honoured, judgeIfRange_iff]
      rw [hh]
      cases hj : judgeIfRange v st <;> simp [wsgiPlan, hj, planOfRange_ne_all]

example : wsgiPlan (some exMulti) (some [34, 97, 98, 34]) exStat = .several [(0, 1), (9, 11)] ∧
    wsgiPlan (some exMulti) (some [68]) exStat = .several [(0, 1), (9, 11)] ∧
    wsgiPlan (some exMulti) (some []) exStat = .all ∧
    wsgiPlan (some exMulti) (some [97, 98]) exStat = .all := by decide +kernel
example : Honoured (some exMulti) (some [34, 97, 98, 34]) exStat := ⟨rfl, Or.inr (Or.inl rfl)⟩
example : ¬ Honoured (some exMulti) (some []) exStat := by simp [Honoured, exStat, quoted]

theorem wsgiPlan_cases (range ifRange : Option Bytes) (st : Stat) :
    wsgiPlan range ifRange st = .all ∨ ∃ hdr, wsgiPlan range ifRange st = planOfRange hdr st := by
  by_cases hh : Honoured range ifRange st
  · obtain ⟨hdr, hr⟩ := Option.isSome_iff_exists.mp hh.1
    exact Or.inr ⟨hdr, (if_range_gate range ifRange st).2 hdr hr hh⟩
  · exact Or.inl ((if_range_gate range ifRange st).1.mpr hh)

private theorem wsgiPlan_ok (range ifRange : Option Bytes) (st : Stat) :
    PlanOk st.size (wsgiPlan range ifRange st) := by
  rcases wsgiPlan_cases range ifRange st with h | ⟨hdr, h⟩ <;> rw [h]
  · trivial
  · exact planOfRange_ok hdr st

private theorem declared_of_plan (ho : Bool) (ct b : Bytes) (chunk : Nat) (st : Stat) (file : Bytes) (plan : Plan)
    (hs : st.size = file.length) (hok : PlanOk st.size plan)
    (hst : (wsgiRespond ho ct b chunk st file plan).status = 200 ∨
      (wsgiRespond ho ct b chunk st file plan).status = 206) :
    declared (wsgiRespond ho ct b chunk st file plan).headers = some (dec (planBody ct b st file plan).length) := by
  -- the lookup of `content-length` in the handler's header list computes
  cases plan with
  | all =>
    show some (dec st.size) = some (dec file.length)
    rw [hs]
  | single s e =>
    show some (dec (e - s)) = some (dec (slice file s e).length)
    rw [slice_length file s e (hs ▸ hok.2)]
  | several rs =>
    show some (dec (multipartContentLength b ct st.size rs)) = some (dec (renderMultipart b ct st.size rs file).length)
    rw [length_formula b ct st.size rs file (hs ▸ hok)]
  | error status hdrs body =>
    have h4 : status = 400 ∨ status = 416 := hok
    have h2 : status = 200 ∨ status = 206 := hst
    omega

/-- **C02.3a** the declared Content-Length is the number of body bytes actually sent, for every 200 and 206
answer, on WSGI and on ASGI with and without zero-copy.  The header is read off the WSGI answer; the ASGI start
event carries the same list (`wsgi_asgi_same_plan_and_body`). -/
theorem content_length_truthful (range ifRange : Option Bytes) (ct b : Bytes) (chunk : Nat) (st : Stat)
    (file : Bytes) (hc : 1 ≤ chunk) (hs : st.size = file.length) :
    let plan := wsgiPlan range ifRange st
    let r := wsgiRespond false ct b chunk st file plan
    (r.status = 200 ∨ r.status = 206) →
      declared r.headers = some (dec r.body.length) ∧
      ∀ zc, declared r.headers =
        some (dec (asgiBody file (asgiEvents zc false ct b chunk st file plan).tail).length) := by
  intro plan r hst
  have hd := declared_of_plan false ct b chunk st file plan hs (wsgiPlan_ok range ifRange st) hst
  refine ⟨?_, fun zc => ?_⟩
  · show declared r.headers = some (dec (wsgiRespond false ct b chunk st file plan).body.length)
    rw [wsgi_body ct b chunk st file plan hc hs]; exact hd
  · rw [asgi_body zc ct b chunk st file plan hc]; exact hd

example : (wsgiRespond false [97, 47, 98] [120] 5 exStat exFile (wsgiPlan (some exMulti) none exStat)).status = 206 ∧
    declared (wsgiRespond false [97, 47, 98] [120] 5 exStat exFile (wsgiPlan (some exMulti) none exStat)).headers
      = some [49, 49, 52] ∧
    (wsgiRespond false [97, 47, 98] [120] 5 exStat exFile (wsgiPlan (some exMulti) none exStat)).body.length = 114 ∧
    exStat.size = exFile.length := by decide +kernel

/-- **C02.3b** HEAD: the status and header list of GET (so the same, truthful Content-Length) and an empty body —
one empty chunk on WSGI, one final empty body event on ASGI (no file is opened, no zero-copy message is sent) —
the error answers included. -/
theorem head_same_headers_empty_body (zc : Bool) (ct b : Bytes) (chunk : Nat) (st : Stat) (file : Bytes)
    (plan : Plan) :
    (wsgiRespond true ct b chunk st file plan).status = (wsgiRespond false ct b chunk st file plan).status ∧
    (wsgiRespond true ct b chunk st file plan).headers = (wsgiRespond false ct b chunk st file plan).headers ∧
    (wsgiRespond true ct b chunk st file plan).body = [] ∧
    asgiEvents zc true ct b chunk st file plan =
      [.start (wsgiRespond false ct b chunk st file plan).status
         (wsgiRespond false ct b chunk st file plan).headers, .body [] false] := by
  cases plan <;> exact ⟨rfl, rfl, rfl, rfl⟩

example : wsgiRespond true [97] [120] 5 exStat exFile (wsgiPlan (some [98]) none exStat) = ⟨400, [], [[]]⟩ ∧
    (wsgiRespond false [97] [120] 5 exStat exFile (wsgiPlan (some [98]) none exStat)).body.length = 22 := by
  decide +kernel

/-- **C02.4** what is answered (GET), by C03's resolution of the Range header:
* not honoured → 200, the whole file;
* one range `(s, e)` → 206, that slice, `Content-Range: bytes s-(e-1)/size`;
* several ranges → 206, the multipart body of C02.1b, `Content-Type: multipart/byteranges; boundary=b`;
* malformed → 400, no header at all;
* unsatisfiable → 416, `Content-Range: */size`, empty body; the name has the capitals that `RangeNotSatisfiable`
  gives it (`unsatHeaderName`), the handlers' `hContentRange` above is lower case (see C02.7).
The same holds for ASGI by `wsgi_asgi_same_plan_and_body`. -/
theorem status_cases (range ifRange : Option Bytes) (ct b : Bytes) (chunk : Nat) (st : Stat) (file : Bytes)
    (hc : 1 ≤ chunk) (hs : st.size = file.length) :
    let r := wsgiRespond false ct b chunk st file (wsgiPlan range ifRange st)
    (¬ Honoured range ifRange st → r.status = 200 ∧ r.body = file ∧ r.headers.lookup hContentRange = none) ∧
    (∀ hdr, range = some hdr → Honoured range ifRange st →
      (∀ s e, Range.parseRange hdr st.size = .ok [(s, e)] →
        r.status = 206 ∧ r.body = slice file s e ∧
        r.headers.lookup hContentRange = some (specContentRange s e st.size) ∧
        r.headers.lookup hContentType = some ct) ∧
      (∀ rs, Range.parseRange hdr st.size = .ok rs → rs.length ≠ 1 →
        r.status = 206 ∧ r.body = specMultipart b ct st.size rs file ∧
        r.headers.lookup hContentType =
          some ([109, 117, 108, 116, 105, 112, 97, 114, 116, 47, 98, 121, 116, 101, 114, 97, 110, 103, 101, 115,
                 59, 32, 98, 111, 117, 110, 100, 97, 114, 121, 61] ++ b)) ∧
      (Range.parseRange hdr st.size = .malformed → r.status = 400 ∧ r.headers = []) ∧
      (Range.parseRange hdr st.size = .unsatisfiable →
        r.status = 416 ∧ r.body = [] ∧
        r.headers = [([67, 111, 110, 116, 101, 110, 116, 45, 82, 97, 110, 103, 101], [42, 47] ++ dec st.size)])) := by
  have hb := wsgi_body ct b chunk st file (wsgiPlan range ifRange st) hc hs
  dsimp only
  refine ⟨fun hno => ?_, fun hdr hr hh => ?_⟩
  · rw [hb, (if_range_gate range ifRange st).1.mpr hno]
    exact ⟨rfl, rfl, rfl⟩
  · rw [hb, (if_range_gate range ifRange st).2 hdr hr hh]
    refine ⟨fun s e hpr => ?_, fun rs hpr hlen => ?_, fun hpr => ?_, fun hpr => ?_⟩
    · rw [planOfRange_single hpr]
      exact ⟨rfl, rfl, congrArg some (contentRange_eq s e st.size), rfl⟩
    · rw [planOfRange_several hpr hlen]
      exact ⟨rfl, multipart_body_spec b ct st.size rs file, congrArg some (renderTemplate_lit_text { boundary := b } _ .boundary)⟩
    · rw [planOfRange_malformed hpr]
      exact ⟨rfl, rfl⟩
    · rw [planOfRange_unsat hpr]
      exact ⟨rfl, rfl, rfl⟩

example : Range.parseRange exSingle exStat.size = .ok [(4, 8)] ∧
    Range.parseRange exMulti exStat.size = .ok [(0, 1), (9, 11)] ∧
    Range.parseRange [98] exStat.size = .malformed ∧
    Range.parseRange [98, 121, 116, 101, 115, 61, 49, 50, 45] exStat.size = .unsatisfiable ∧
    Honoured (some exSingle) none exStat := by
  refine ⟨by decide +kernel, by decide +kernel, by decide +kernel, by decide +kernel, rfl, Or.inl rfl⟩

/-- **C02.4b** 400 and 416 carry no file data: the whole error response — status, headers,
every chunk / event — is the same whatever the file contains. -/
theorem error_no_file_data (zc ho : Bool) (ct b : Bytes) (chunk : Nat) (st : Stat) (status : Nat)
    (hdrs : List Header) (body : Bytes) (file file' : Bytes) :
    wsgiRespond ho ct b chunk st file (.error status hdrs body) =
      wsgiRespond ho ct b chunk st file' (.error status hdrs body) ∧
    asgiEvents zc ho ct b chunk st file (.error status hdrs body) =
      asgiEvents zc ho ct b chunk st file' (.error status hdrs body) ∧
    zcMessages (asgiEvents zc ho ct b chunk st file (.error status hdrs body)) = [] := by
  refine ⟨rfl, rfl, rfl⟩

example : wsgiPlan (some [98, 121, 116, 101, 115, 61, 49, 50, 45]) none exStat =
    .error 416 [([67, 111, 110, 116, 101, 110, 116, 45, 82, 97, 110, 103, 101], [42, 47, 49, 50])] [] := by
  decide +kernel

/-- **C02.6** (ASGI, GET, any plan) with or without the extension every event after the start carries
`more_body = true` except the last, which carries `false`; with it the zero-copy messages are, in order, exactly
the planned ranges as `(offset, count) = (start, end - start)` — one message without offset and count for the whole
file, none for an error answer. -/
theorem zerocopy_events (zc : Bool) (ct b : Bytes) (chunk : Nat) (st : Stat) (file : Bytes) (plan : Plan)
    (hc : 1 ≤ chunk) :
    LastOnlyFalse (asgiEvents zc false ct b chunk st file plan).tail ∧
    zcMessages (asgiEvents true false ct b chunk st file plan) = planZc plan ∧
    zcMessages (asgiEvents false false ct b chunk st file plan) = [] := by
  have hzc : ∀ zc, zcMessages (asgiEvents zc false ct b chunk st file plan) = if zc then planZc plan else [] := by
    intro zc
    cases plan with
    | all => exact sendfile_zc zc file chunk none none false hc
    | single s e => exact sendfile_zc zc file chunk (some s) (some (e - s)) false hc
    | several rs =>
      simp only [asgiEvents, Bool.false_eq_true, if_false, zcMessages, planZc, zcMessages_append,
        zcMessages_flatMap, sendfile_zc _ _ _ _ _ _ hc, List.append_nil]
      cases zc <;> simp [List.map_eq_flatMap]
    | error status hdrs body => cases zc <;> rfl
  refine ⟨?_, hzc true, hzc false⟩
  cases plan with
  | all => exact (lastOnlyFalse_iff _).mpr (sendfile_more zc file chunk none none false hc)
  | single s e => exact (lastOnlyFalse_iff _).mpr (sendfile_more zc file chunk (some s) (some (e - s)) false hc)
  | several rs =>
    -- the last event is the closing line; every event of a part carries `true`
    refine ⟨_, _, rfl, ?_, rfl⟩
    intro e he
    obtain ⟨r, _, he⟩ := List.mem_flatMap.mp he
    obtain ⟨init, last, heq, hi, hl⟩ := sendfile_more zc file chunk (some r.1) (some (r.2 - r.1)) true hc
    rw [heq] at he
    simp only [List.mem_cons, List.mem_append, List.mem_nil_iff, or_false] at he
    rcases he with rfl | (he | rfl) | rfl
    · rfl             -- the part header
    · exact hi e he   -- an event of the part's `sendfile` before its last
    · exact hl        -- the last of them: `sendfile` was called with `more_body = true`
    · rfl             -- the part trailer
  | error status hdrs body => exact ⟨[], .body body false, rfl, by simp, rfl⟩

example : asgiEvents true false [97] [120] 4 exStat exFile (.single 4 8) =
    [.start 206 (headersSingle contentRangeTemplateAsgi [97] exStat 4 8), .zerocopy (some 4) (some 4) false] := by
  decide +kernel
example : zcMessages (asgiEvents true false [97] [120] 4 exStat exFile (.several [(0, 1), (9, 11)])) =
    [(some 0, some 1), (some 9, some 2)] := by decide +kernel

/-- **C02.6b** what a server copies for the zero-copy messages is byte for byte what the emulation sends. -/
theorem zerocopy_same_bytes (ct b : Bytes) (chunk : Nat) (st : Stat) (file : Bytes) (plan : Plan)
    (hc : 1 ≤ chunk) :
    asgiBody file (asgiEvents true false ct b chunk st file plan).tail =
      asgiBody file (asgiEvents false false ct b chunk st file plan).tail := by
  rw [asgi_body true ct b chunk st file plan hc, asgi_body false ct b chunk st file plan hc]

example : asgiBody exFile (asgiEvents true false [97] [120] 4 exStat exFile (.single 2 11)).tail =
    [202, 203, 204, 205, 206, 207, 208, 209, 210] := by decide +kernel

/-- **C02.7** the two interfaces make the same plan from the same headers (an ASGI header list carrying the
Range / If-Range values the WSGI environ carries, among any other headers) and answer with the same status, header
list and body bytes, for GET and HEAD, with and without zero-copy.  Header names are modelled as the handlers and
the exceptions write them; that baize's ASGI side lower-cases the names of a 400 / 416 (`Content-Range` →
`content-range`) is left out, and the line protocol, which compares names up to case, does not see it. -/
theorem wsgi_asgi_same_plan_and_body (range ifRange : Option Bytes) (hs : List Header) (st : Stat)
    (hscan : scanHeaders hs (none, none) = (range, ifRange)) (zc ho : Bool) (ct b : Bytes) (chunk : Nat)
    (file : Bytes) (hc : 1 ≤ chunk) (hsz : st.size = file.length) :
    asgiPlan hs st = wsgiPlan range ifRange st ∧
    (asgiEvents zc ho ct b chunk st file (asgiPlan hs st)).head? =
      some (.start (wsgiRespond ho ct b chunk st file (wsgiPlan range ifRange st)).status
        (wsgiRespond ho ct b chunk st file (wsgiPlan range ifRange st)).headers) ∧
    asgiBody file (asgiEvents zc ho ct b chunk st file (asgiPlan hs st)).tail =
      (wsgiRespond ho ct b chunk st file (wsgiPlan range ifRange st)).body := by
  have hp : asgiPlan hs st = wsgiPlan range ifRange st := by
    unfold asgiPlan wsgiPlan
    rw [hscan]
  refine ⟨hp, ?_, ?_⟩
  · rw [hp]
    cases wsgiPlan range ifRange st <;> rfl
  · rw [hp]
    cases ho with
    | false => rw [asgi_body zc ct b chunk st file _ hc, wsgi_body ct b chunk st file _ hc hsz]
    | true =>
      obtain ⟨_, _, h3, h4⟩ := head_same_headers_empty_body zc ct b chunk st file (wsgiPlan range ifRange st)
      rw [h3, h4]; rfl

example : scanHeaders [([120], [1]), (kRange, exSingle), (kIfRange, [68])] (none, none) =
    (some exSingle, some [68]) := by decide +kernel
example : scanHeaders [(kIfRange, [])] (none, none) = (none, some []) := by decide +kernel

/-- **C02.8** every character of the generated boundary alphabet is a lower-case letter or a digit (a `token`
character: the boundary needs no quoting in the Content-Type parameter, and never contains the `-` or line ends of
the framing). -/
theorem boundary_is_token :
    (∀ c ∈ boundaryAlphabetWsgi, (97 ≤ c ∧ c ≤ 122) ∨ (48 ≤ c ∧ c ≤ 57)) ∧
    (∀ c ∈ boundaryAlphabetAsgi, (97 ≤ c ∧ c ≤ 122) ∨ (48 ≤ c ∧ c ≤ 57)) := by
  decide

/-- **C02.9** shapes the model was written for, regenerated from /repo on every run: the two interface files agree
on the templates, the boundary alphabet and `k`; `parse_range` has five MalformedRangeHeader raise sites; the part
header is encoded as Latin-1 (code point = byte).  The first four equalities are also what `asgi_body` and
`wsgi_asgi_same_plan_and_body` close by `rfl` between the two sets of literals, so a divergence of the two files
already fails there. -/
theorem source_pinned :
    closingTemplateAsgi = closingTemplateWsgi ∧ partTrailerAsgi = partTrailerWsgi ∧
    contentRangeTemplateAsgi = contentRangeTemplateWsgi ∧
    multipartTypeTemplateAsgi = multipartTypeTemplateWsgi ∧
    boundaryAlphabetAsgi = boundaryAlphabetWsgi ∧ boundaryKAsgi = boundaryKWsgi ∧
    malformedMessages.length = 5 ∧ malformedStatus = 400 ∧ unsatStatus = 416 ∧
    partHeaderEncoding = "latin-1" := by
  decide

end Baize.FileResponse
