/-
C14 — conditional requests never yield a stale 304 and always revalidate a fresh copy.

Every theorem quantifies over all histories `ops`, all initial files, all tick rates, both interfaces
(`genCfg iface`, built from the regenerated source constants) and every ETag function satisfying
`EtagOk`; each is followed by an `example` that instantiates its hypotheses on a concrete history.
-/
import BaizeVerif.Lemmas.Conditional

namespace Baize.Conditional

open Baize.Gen.Conditional

/-- Why `W/` has to be removed per list member: with `perMember = false` (the prefix removed once, from
the start of the whole header, as baize once did) `"zzz", W/"ab"` does not match the tag `ab`, although
`W/"ab", "zzz"` does. -/
theorem weak_in_list_witness :
    ifNoneMatchWith false [97, 98] [34, 122, 122, 122, 34, 44, 32, 87, 47, 34, 97, 98, 34] = false ∧
    ifNoneMatchWith false [97, 98] [87, 47, 34, 97, 98, 34, 44, 32, 34, 122, 122, 122, 34] = true ∧
    ifNoneMatchWith true [97, 98] [34, 122, 122, 122, 34, 44, 32, 87, 47, 34, 97, 98, 34] = true := by
  decide +kernel

/- `"zzz", W/"ab"` against the tag `ab` -/
example : ifNoneMatch [97, 98] (renderTags [⟨[], false, [122, 122, 122], []⟩, ⟨[32], true, [97, 98], []⟩]) = true := by
  decide +kernel
example : ifNoneMatch [97, 98] [34, 122, 122, 122, 34, 44, 32, 87, 47, 34, 97, 98, 34] = true := by decide +kernel

/-- a concrete injective ETag for the examples: `m` zeros, `a`, `s` zeros -/
def etagU (m s : Nat) : List Nat := List.replicate m 48 ++ 97 :: List.replicate s 48

private theorem etagU_ok : EtagOk etagU := by
  constructor
  · intro m s m' s' h
    -- the run of zeros before the `a` has length `m`, what follows the `a` length `s`
    have hsp : ∀ m s, (etagU m s).takeWhile (· == 48) = List.replicate m 48 ∧
        (etagU m s).dropWhile (· == 48) = 97 :: List.replicate s 48 :=
      fun m s => List.span_append_stop (by simp) (Or.inr ⟨_, _, rfl, rfl⟩)
    have h1 := (hsp m s).1
    have h2 := (hsp m s).2
    rw [h, (hsp m' s').1] at h1
    rw [h, (hsp m' s').2] at h2
    exact ⟨by simpa using congrArg List.length h1.symm, by simpa using congrArg List.length h2.symm⟩
  · intro m s c hc
    simp only [etagU, List.mem_append, List.mem_replicate, List.mem_cons] at hc
    rcases hc with ⟨_, rfl⟩ | rfl | ⟨_, rfl⟩ <;> decide

def exF0 : File := ⟨0, 3, 4, 4⟩
def sJunk : TagSpec := ⟨[], false, some [122, 122, 122], []⟩      -- "zzz"
def sWeak : TagSpec := ⟨[32], true, none, []⟩                      --  W/"<etag of j>"
def sSelf : TagSpec := ⟨[], false, none, [9]⟩                       -- "<etag of j>"<TAB>
/-- 200; `"zzz", W/"<etag>"` + IMS → 304; rewrite 0.5 s later with another size; both validators → 200;
Last-Modified alone inside the same second → 304; touch 2.5 s later; Last-Modified alone → 200; `*` → 304 -/
def exOps : List Op :=
  [Op.plain, .request 0 (tagPieces [sJunk, sWeak]) true, .rewriteOther 5 4,
   .request 0 (tagPieces [sSelf]) true, .request 0 [] true, .touch 9, .request 0 [] true,
   .request 0 [.raw [42]] false]
def exT : List Resp := run (genCfg .wsgi 2 etagU) exF0 exOps

example : exT.map (·.status) = [200, 304, 200, 304, 200, 304] := by decide +kernel
example : exT.map (·.body) = [some 0, none, some 1, none, some 1, none] := by decide +kernel

private theorem junk_ok : sJunk.Ok etagU := by
  refine ⟨by simp [sJunk], by simp [sJunk], ?_⟩
  intro t ht
  simp only [sJunk, Option.some.injEq] at ht
  subst ht
  refine ⟨by intro c hc; simp at hc; subst hc; decide, ?_⟩
  intro m sz h
  have : 97 ∈ etagU m sz := by simp [etagU]
  rw [h] at this
  simp at this

private theorem weak_ok : sWeak.Ok etagU :=
  ⟨by intro c hc; simp [sWeak] at hc; subst hc; decide, by simp [sWeak], by intro t ht; simp [sWeak] at ht⟩

private theorem self_ok : sSelf.Ok etagU :=
  ⟨by simp [sSelf], by intro c hc; simp [sSelf] at hc; subst hc; decide, by intro t ht; simp [sSelf] at ht⟩

private theorem exWf : Wf exF0 := by unfold Wf; decide

private theorem exStrict : Clocked 1 true exF0 exOps := by
  simp [Clocked, exOps, Op.stamp?, Op.plain, modify, exF0]

private theorem exClock : CtimeMonotone exF0 exOps := exStrict.mono (by decide) (by decide)

/-- modifications at least one second apart (2 ticks per second): 200; touch 1.5 s later; 200;
Last-Modified of #1 alone → 304; ETag of #0 → 200 -/
def exOps2 : List Op :=
  [Op.plain, .touch 7, Op.plain, .request 1 [] true, .request 0 (tagPieces [sSelf]) false]
def exT2 : List Resp := run (genCfg .asgi 2 etagU) exF0 exOps2

example : exT2.map (·.status) = [200, 200, 304, 200] := by decide +kernel

private theorem exSpaced : Clocked 2 true exF0 exOps2 := by
  simp [Clocked, exOps2, Op.stamp?, Op.plain, modify, exF0]

private theorem exClock2 : CtimeMonotone exF0 exOps2 := exSpaced.mono (by decide) (by decide)

/-- replacements that do not stamp `mtime` (2 ticks per second, modifications >= 1 s apart):
200 (mtime 4, size 3); replaced 2.5 s later by content of size 5 whose mtime is still 4 (`cp -p`);
Last-Modified of #0 alone → 200 (ctime moved); both validators of #0 → 200 (size); plain → 200; replaced
again 1.5 s later by other content of the same size and mtime; ETag of #3 → 304 (invisible to the
entity-tag); Last-Modified of #3 alone → 200 (ctime moved) -/
def exOps3 : List Op :=
  [Op.plain, .restoreOther 9 4 5, .request 0 [] true, .request 0 (tagPieces [sSelf]) true, Op.plain,
   .restoreSame 12 4, .request 3 (tagPieces [sSelf]) false, .request 3 [] true]
def exT3 : List Resp := run (genCfg .wsgi 2 etagU) exF0 exOps3

example : exT3.map (·.status) = [200, 200, 200, 200, 304, 200] := by decide +kernel
example : exT3.map (·.body) = [some 0, some 1, some 1, some 1, none, some 2] := by decide +kernel

private theorem exClock3 : Clocked 2 false exF0 exOps3 := by
  simp [Clocked, exOps3, Op.stamp?, Op.plain, modify, exF0]

private theorem exMono3 : CtimeMonotone exF0 exOps3 := exClock3.mono (by decide) (by decide)

private theorem exOk : ∀ s ∈ [sJunk, sWeak], s.Ok etagU := by
  simp [junk_ok, weak_ok]

private theorem exOkSelf : ∀ s ∈ [sSelf], s.Ok etagU := by
  simp [self_ok]

/-- **Tie to the source**: the shapes the model and the theorems were written for: the literals of
`if_none_match`, the `W/` prefix handled per list member, a one-character separator, the `<=` on
`int()`-truncated seconds in `if_modified_since`, If-Modified-Since compared with the change
time `st_ctime` on both interfaces (code 1; with `st_mtime` the theorems below are false, see
`ims_field_witness`), Last-Modified = `st_mtime`, ETag over `st_mtime` and `st_size`, both
interpolated verbatim, and If-None-Match taking precedence on both interfaces.
The model reads the literals, `weakPerMember`, `imsField*` and `inmPrecedence*` from `Gen`; the two
whitespace strips (`wsStrips`), the `<=` (`imsCmp`), Last-Modified (`lastModifiedField`) and the ETag's
fields (`etagFields`, `etagFieldsVerbatim`) are built into it and tied to the source here only.  So is
the range of `imsField*`: `Field.ofCode` reads every code but 0 as `ctime`, also 2 (`st_size`) and 3
(`st_atime`). -/
theorem source_pinned :
    star = [42] ∧ weakPrefix = [87, 47] ∧ weakDrop = 2 ∧ weakPerMember = true ∧ splitSep = [44] ∧
    stripChars = [34] ∧ wsStrips = 2 ∧ imsCmp = 0 ∧ imsFieldWsgi = 1 ∧ imsFieldAsgi = 1 ∧
    inmPrecedenceWsgi = true ∧ inmPrecedenceAsgi = true ∧ etagFields = [0, 2] ∧ etagFieldsVerbatim = true ∧
    lastModifiedField = 0 := by
  decide

/-- **The request's validators are those of response `ref`**: `src`, the file state behind them, is the
file served by response `ref` if that came earlier and was a 200 (only a 200 carries validators);
otherwise the request carries none. -/
theorem validators_of_response (cfg : Cfg) (f0 : File) (ops : List Op) (k : Nat) (rk : Resp)
    (hk : (run cfg f0 ops)[k]? = some rk) :
    rk.src = if rk.ref < k then validatorsOf (run cfg f0 ops) rk.ref else none := by
  obtain ⟨f, ref, ps, lm, rfl⟩ := run_answered cfg f0 ops k rk hk
  simp only [answer_eq, validatorsOf_take]

example : (exT[1]'(by decide +kernel)).src = some exF0 := by
  rw [validators_of_response (genCfg .wsgi 2 etagU) exF0 exOps 1 _ (by decide +kernel)]; decide +kernel

/-- **No stale 304** (under `CtimeMonotone` only).  If response `k` is a 304 to a request carrying validators
of response `j` — entity-tags (the ETag of `j`, strong or weak, and/or foreign tags) and/or its Last-Modified
— then the file is exactly the file served at `j` (same content version, same stat), or the modifications
since were below the resolution of the validators used: with entity-tags, `mtime` and `size` are those at `j`
(the ETag is a function of these two only); with Last-Modified alone, the file's change time lies in the very
second of the advertised Last-Modified.  The proof uses that If-Modified-Since is compared with `st_ctime`.
`hcarries` is not used: a request with neither validator gets no 304 (`stale_core`). -/
theorem no_stale_304 (iface : Iface) (tps : Nat) (etagOf : Nat → Nat → List Nat) (hE : EtagOk etagOf)
    (f0 : File) (ops : List Op) (hwf : Wf f0) (hclk : CtimeMonotone f0 ops)
    (j k : Nat) (rj rk : Resp) (hv : ValidatorsFrom (run (genCfg iface tps etagOf) f0 ops) j k rj rk)
    (specs : List TagSpec) (hp : rk.pieces = tagPieces specs) (hok : ∀ s ∈ specs, s.Ok etagOf)
    (hcarries : specs ≠ [] ∨ rk.lm = true) (h304 : rk.status = 304) :
    rk.file = rj.file ∨
      (specs ≠ [] ∧ rk.file.mtime = rj.file.mtime ∧ rk.file.size = rj.file.size) ∨
      (specs = [] ∧ secs tps rk.file.ctime = secs tps rj.file.mtime) := by
  rcases stale_core (genCfg_facts iface tps etagOf) hE hwf hclk hv specs hp hok h304 with h | h
  · exact Or.inl h
  · rcases h.unseen with ht | ⟨hne, hle⟩
    · exact Or.inr (Or.inl ht)
    · exact Or.inr (Or.inr ⟨hne, Nat.le_antisymm hle (secs_mono _ h.gap)⟩)

/- response 1 of `exOps` (`"zzz", W/"<etag of 0>"` + If-Modified-Since on the untouched file, 304) -/
example :=
  no_stale_304 .wsgi 2 etagU etagU_ok exF0 exOps exWf exClock 0 1 (exT[0]'(by decide +kernel))
    (exT[1]'(by decide +kernel)) (by decide +kernel) [sJunk, sWeak] (by decide +kernel) exOk
    (Or.inl (by simp)) (by decide +kernel)
/- response 3 of `exOps` (Last-Modified alone, after a rewrite 0.5 s later inside the same second, 304):
the file did change and the conclusion is the third disjunct — the resolution clause is needed -/
example :=
  no_stale_304 .wsgi 2 etagU etagU_ok exF0 exOps exWf exClock 0 3 (exT[0]'(by decide +kernel))
    (exT[3]'(by decide +kernel)) (by decide +kernel) [] (by decide +kernel) (by simp)
    (Or.inr (by decide +kernel)) (by decide +kernel)
example : (exT[3]'(by decide +kernel)).file.version ≠ (exT[0]'(by decide +kernel)).file.version := by
  decide +kernel
/- response 4 of `exOps3` (ETag of #3 after a same-size replacement that kept `mtime`, 304): the file did
change and the conclusion is the second disjunct -/
example :=
  no_stale_304 .wsgi 2 etagU etagU_ok exF0 exOps3 exWf exMono3 3 4 (exT3[3]'(by decide +kernel))
    (exT3[4]'(by decide +kernel)) (by decide +kernel) [sSelf] (by decide +kernel) exOkSelf
    (Or.inl (by simp)) (by decide +kernel)
example : (exT3[4]'(by decide +kernel)).file.version ≠ (exT3[3]'(by decide +kernel)).file.version := by
  decide +kernel

/-- **No stale 304 when changes are at least one second apart** (`Clocked tps false`; `mtime` arbitrary).
A 304 to a request carrying only the Last-Modified of `j` means the file is exactly the one served at
`j`; with entity-tags it is that file or one with identical `mtime` and `size`.  `hcarries` is not used. -/
theorem no_stale_304_spaced (iface : Iface) (tps : Nat) (htps : 0 < tps) (etagOf : Nat → Nat → List Nat)
    (hE : EtagOk etagOf) (f0 : File) (ops : List Op) (hwf : Wf f0) (hclk : Clocked tps false f0 ops)
    (j k : Nat) (rj rk : Resp) (hv : ValidatorsFrom (run (genCfg iface tps etagOf) f0 ops) j k rj rk)
    (specs : List TagSpec) (hp : rk.pieces = tagPieces specs) (hok : ∀ s ∈ specs, s.Ok etagOf)
    (hcarries : specs ≠ [] ∨ rk.lm = true) (h304 : rk.status = 304) :
    rk.file = rj.file ∨ (specs ≠ [] ∧ rk.file.mtime = rj.file.mtime ∧ rk.file.size = rj.file.size) := by
  rcases stale_core (genCfg_facts iface tps etagOf) hE hwf hclk hv specs hp hok h304 with h | h
  · exact Or.inl h
  · rcases h.unseen with ht | ⟨_, hle⟩
    · exact Or.inr ht
    · exact absurd hle (Nat.not_le.mpr (secs_lt htps h.gap))

example :=
  no_stale_304_spaced .wsgi 2 (by decide) etagU etagU_ok exF0 exOps3 exWf exClock3 3 4
    (exT3[3]'(by decide +kernel)) (exT3[4]'(by decide +kernel)) (by decide +kernel) [sSelf] (by decide +kernel)
    exOkSelf (Or.inl (by simp)) (by decide +kernel)

/-- **No stale 304, entity-tags, every modification stamps `mtime` at a later tick**
(`Clocked 1 true`: no `mtime`-preserving replacement in the history): a 304 to a request carrying
entity-tags of response `j` means the file is exactly the one served at `j`. -/
theorem no_stale_304_strict (iface : Iface) (tps : Nat) (etagOf : Nat → Nat → List Nat) (hE : EtagOk etagOf)
    (f0 : File) (ops : List Op) (hwf : Wf f0) (hclk : Clocked 1 true f0 ops)
    (j k : Nat) (rj rk : Resp) (hv : ValidatorsFrom (run (genCfg iface tps etagOf) f0 ops) j k rj rk)
    (specs : List TagSpec) (hp : rk.pieces = tagPieces specs) (hok : ∀ s ∈ specs, s.Ok etagOf)
    (hne : specs ≠ []) (h304 : rk.status = 304) :
    rk.file = rj.file ∧ rk.file.version = rj.file.version := by
  rcases stale_core (genCfg_facts iface tps etagOf) hE hwf hclk hv specs hp hok h304 with h | h
  · exact ⟨h, by rw [h]⟩
  · rcases h.unseen with ⟨_, hm, _⟩ | ⟨he, _⟩
    · have := h.stamped rfl
      have := h.gap
      omega
    · exact absurd he hne

example :=
  no_stale_304_strict .wsgi 2 etagU etagU_ok exF0 exOps exWf exStrict 0 1 (exT[0]'(by decide +kernel))
    (exT[1]'(by decide +kernel)) (by decide +kernel) [sJunk, sWeak] (by decide +kernel) exOk
    (by simp) (by decide +kernel)

/-- **No stale 304, any validators, every modification stamps `mtime`, at least one second apart**
(`Clocked tps true`): a 304 to a request carrying validators of response `j` (entity-tags and/or
Last-Modified) means the file is exactly the one served at `j`. -/
theorem no_stale_304_stamped_spaced (iface : Iface) (tps : Nat) (htps : 0 < tps) (etagOf : Nat → Nat → List Nat)
    (hE : EtagOk etagOf) (f0 : File) (ops : List Op) (hwf : Wf f0) (hclk : Clocked tps true f0 ops)
    (j k : Nat) (rj rk : Resp) (hv : ValidatorsFrom (run (genCfg iface tps etagOf) f0 ops) j k rj rk)
    (specs : List TagSpec) (hp : rk.pieces = tagPieces specs) (hok : ∀ s ∈ specs, s.Ok etagOf)
    (hcarries : specs ≠ [] ∨ rk.lm = true) (h304 : rk.status = 304) :
    rk.file = rj.file ∧ rk.file.version = rj.file.version := by
  have h : rk.file = rj.file := by
    rcases no_stale_304_spaced iface tps htps etagOf hE f0 ops hwf (hclk.mono (Nat.le_refl _) fun _ => rfl)
      j k rj rk hv specs hp hok hcarries h304 with h | ⟨hne, _⟩
    · exact h
    · exact (no_stale_304_strict iface tps etagOf hE f0 ops hwf (hclk.mono htps id) j k rj rk hv specs hp hok
        hne h304).1
  exact ⟨h, by rw [h]⟩

example :=
  no_stale_304_stamped_spaced .asgi 2 (by decide) etagU etagU_ok exF0 exOps2 exWf exSpaced 1 2
    (exT2[1]'(by decide +kernel)) (exT2[2]'(by decide +kernel)) (by decide +kernel) [] (by decide +kernel)
    (by simp) (Or.inr (by decide +kernel)) (by decide +kernel)

/-- **A modification gets the full response** (under `CtimeMonotone` only).  If since response `j`
* `size` or `mtime` changed at all, and the request carries entity-tags of `j`, or
* the change time (whatever happened to `mtime`) or `mtime` moved forward by at least one second, and the
  request carries only the Last-Modified of `j` (or nothing),
then response `k` is a 200 with the current content, ETag and Last-Modified; and when `size` or `mtime`
differ from those at `j` its ETag differs from the one of `j`.  The second case is where the comparison
against `st_ctime` is used. -/
theorem modified_gets_full (iface : Iface) (tps : Nat) (htps : 0 < tps) (etagOf : Nat → Nat → List Nat)
    (hE : EtagOk etagOf) (f0 : File) (ops : List Op) (hwf : Wf f0) (hclk : CtimeMonotone f0 ops)
    (j k : Nat) (rj rk : Resp) (hv : ValidatorsFrom (run (genCfg iface tps etagOf) f0 ops) j k rj rk)
    (specs : List TagSpec) (hp : rk.pieces = tagPieces specs) (hok : ∀ s ∈ specs, s.Ok etagOf)
    (hmod : (specs ≠ [] ∧ (rk.file.size ≠ rj.file.size ∨ rk.file.mtime ≠ rj.file.mtime)) ∨
            (specs = [] ∧ (rj.file.ctime + tps ≤ rk.file.ctime ∨ rj.file.mtime + tps ≤ rk.file.mtime))) :
    rk.status = 200 ∧ rk.body = some rk.file.version ∧ rk.etag = some (etagOf rk.file.mtime rk.file.size) ∧
      rk.lastMod = some (secs tps rk.file.mtime) ∧
      ((rk.file.size ≠ rj.file.size ∨ rk.file.mtime ≠ rj.file.mtime) → rk.etag ≠ rj.etag) := by
  have hc := genCfg_facts iface tps etagOf
  generalize genCfg iface tps etagOf = cfg at hc hv
  obtain ⟨hwj, hwk, _⟩ := hv.timeline hwf hclk
  have h := hv.response
  rw [hp, if_neg (Bool.eq_false_iff.mp (notModified_of_modified hc htps hE hwj hwk hok rk.lm hmod))] at h
  obtain ⟨_, _, rfl, rfl⟩ := hc
  obtain ⟨hstatus, hbody, hetag, hlast⟩ := h
  refine ⟨hstatus, hbody, hetag, hlast, fun hstat he => ?_⟩
  rw [hetag, hv.etag] at he
  have := (etag_eq_iff hE _ _).mp (Option.some.inj he)
  exact hstat.elim (fun h' => h' this.2) (fun h' => h' this.1)

/- response 2 of `exOps`: both validators of response 0 after a rewrite with another size 0.5 s later
(inside the second of Last-Modified): If-Modified-Since by itself would say 304, If-None-Match decides alone -/
example :=
  modified_gets_full .wsgi 2 (by decide) etagU etagU_ok exF0 exOps exWf exClock 0 2
    (exT[0]'(by decide +kernel)) (exT[2]'(by decide +kernel)) (by decide +kernel) [sSelf] (by decide +kernel)
    exOkSelf (Or.inl ⟨by simp, Or.inl (by decide +kernel)⟩)
/- response 4 of `exOps`: Last-Modified alone after a touch 2.5 s later -/
example :=
  modified_gets_full .wsgi 2 (by decide) etagU etagU_ok exF0 exOps exWf exClock 0 4
    (exT[0]'(by decide +kernel)) (exT[4]'(by decide +kernel)) (by decide +kernel) [] (by decide +kernel)
    (by simp) (Or.inr ⟨rfl, Or.inr (by decide +kernel)⟩)
/- response 1 of `exOps3`: Last-Modified alone after the file was replaced by content of another size
whose `mtime` is NOT newer (only the change time moved) — the history that tells `st_ctime` from `st_mtime` -/
example :=
  modified_gets_full .wsgi 2 (by decide) etagU etagU_ok exF0 exOps3 exWf exMono3 0 1
    (exT3[0]'(by decide +kernel)) (exT3[1]'(by decide +kernel)) (by decide +kernel) [] (by decide +kernel)
    (by simp) (Or.inr ⟨rfl, Or.inl (by decide +kernel)⟩)
/- response 5 of `exOps3`: the same after a same-size replacement that kept `mtime` -/
example :=
  modified_gets_full .wsgi 2 (by decide) etagU etagU_ok exF0 exOps3 exWf exMono3 3 5
    (exT3[3]'(by decide +kernel)) (exT3[5]'(by decide +kernel)) (by decide +kernel) [] (by decide +kernel)
    (by simp) (Or.inr ⟨rfl, Or.inl (by decide +kernel)⟩)

/-- Why the stat field is load-bearing: the same history `exOps3` run with If-Modified-Since
compared against `st_mtime` answers the Last-Modified-only requests #1 and #5 with 304 although the
file was replaced (by content of another size for #1) more than a second earlier; against
`st_ctime` both get the full response. -/
theorem ims_field_witness :
    (run ⟨2, .mtime, true, etagU⟩ exF0 exOps3).map (·.status) = [200, 304, 200, 200, 304, 304] ∧
    (run ⟨2, .ctime, true, etagU⟩ exF0 exOps3).map (·.status) = [200, 200, 200, 200, 304, 200] := by
  decide +kernel

/-- Why a non-empty If-None-Match has to decide alone: with the two tests OR-ed (`inmPrecedence := false`,
as `file_response` once had it) a request carrying both validators of the file `(size 3, mtime 8)` is
answered 304 on the file rewritten with size 4 one tick (0.25 s) later; with If-None-Match deciding
alone it gets the full response. -/
theorem or_shape_witness :
    notModified ⟨4, .ctime, false, etagU⟩ ⟨1, 4, 9, 9⟩ (renderTags [⟨[], false, etagU 8 3, []⟩]) (some 2) = true ∧
    notModified ⟨4, .ctime, true, etagU⟩ ⟨1, 4, 9, 9⟩ (renderTags [⟨[], false, etagU 8 3, []⟩]) (some 2) = false := by
  decide +kernel

/-- **A fresh copy revalidates.**  If the file's `mtime` and `size` are what they were at response `j` (in
particular when nothing happened to the file), a request whose If-None-Match lists the ETag of `j` —
strong or weak, at any position, with any padding, next to any foreign tags, with or without
If-Modified-Since — gets 304 with an empty body.  `hwf` and `hclk` are not used. -/
theorem fresh_revalidates (iface : Iface) (tps : Nat) (etagOf : Nat → Nat → List Nat) (hE : EtagOk etagOf)
    (f0 : File) (ops : List Op) (hwf : Wf f0) (hclk : CtimeMonotone f0 ops)
    (j k : Nat) (rj rk : Resp) (hv : ValidatorsFrom (run (genCfg iface tps etagOf) f0 ops) j k rj rk)
    (specs : List TagSpec) (hp : rk.pieces = tagPieces specs) (hok : ∀ s ∈ specs, s.Ok etagOf)
    (hlisted : ∃ s ∈ specs, s.text = none)
    (hsame : rk.file.mtime = rj.file.mtime ∧ rk.file.size = rj.file.size) :
    rk.status = 304 ∧ rk.body = none :=
  fresh_gets_304 (genCfg_facts iface tps etagOf) hE hv specs hp hok hlisted hsame

/- the weak tag in second position of a list, the case of `weak_in_list_witness` -/
example :=
  fresh_revalidates .wsgi 2 etagU etagU_ok exF0 exOps exWf exClock 0 1 (exT[0]'(by decide +kernel))
    (exT[1]'(by decide +kernel)) (by decide +kernel) [sJunk, sWeak] (by decide +kernel) exOk
    ⟨sWeak, by simp, rfl⟩ (by decide +kernel)

/-- **`*` matches any existing file**: whatever happened before, a request whose If-None-Match
is `*` gets 304 with an empty body.  `hwf` and `hclk` are not used. -/
theorem star_matches_existing (iface : Iface) (tps : Nat) (etagOf : Nat → Nat → List Nat)
    (f0 : File) (ops : List Op) (hwf : Wf f0) (hclk : CtimeMonotone f0 ops) (k : Nat) (rk : Resp)
    (hk : (run (genCfg iface tps etagOf) f0 ops)[k]? = some rk) (hstar : rk.inm = [42]) :
    rk.status = 304 ∧ rk.body = none :=
  star_gets_304 (genCfg_facts iface tps etagOf).1 hk hstar

example :=
  star_matches_existing .wsgi 2 etagU exF0 exOps exWf exClock 5 (exT[5]'(by decide +kernel))
    (by decide +kernel) (by decide +kernel)

/-- **Last-Modified alone revalidates** a file whose stamps are those of response `j`, as long as
its change time lies in the second of `mtime` (the case after a rewrite or `touch`; a file whose
`ctime` is later than its `mtime` — `cp -p`, an unpacked archive — is answered 200: the price of
comparing against the change time, which is what keeps `no_stale_304` / `modified_gets_full` true
for replacements that do not advance `mtime`).  `hwf` and `hclk` are not used. -/
theorem lm_revalidates (iface : Iface) (tps : Nat) (etagOf : Nat → Nat → List Nat)
    (f0 : File) (ops : List Op) (hwf : Wf f0) (hclk : CtimeMonotone f0 ops)
    (j k : Nat) (rj rk : Resp) (hv : ValidatorsFrom (run (genCfg iface tps etagOf) f0 ops) j k rj rk)
    (hp : rk.pieces = []) (hlm : rk.lm = true) (hsame : rk.file = rj.file)
    (hsec : secs tps rj.file.ctime ≤ secs tps rj.file.mtime) :
    rk.status = 304 ∧ rk.body = none :=
  lm_gets_304 (genCfg_facts iface tps etagOf) hv hp hlm hsame hsec

example :=
  lm_revalidates .asgi 2 etagU exF0 exOps2 exWf exClock2 1 2 (exT2[1]'(by decide +kernel))
    (exT2[2]'(by decide +kernel)) (by decide +kernel) (by decide +kernel) (by decide +kernel)
    (by decide +kernel) (by decide +kernel)

/-- **A request without validators gets the full response**: current content, current ETag and
Last-Modified.  `hwf` and `hclk` are not used. -/
theorem plain_gets_full (iface : Iface) (tps : Nat) (etagOf : Nat → Nat → List Nat)
    (f0 : File) (ops : List Op) (hwf : Wf f0) (hclk : CtimeMonotone f0 ops) (k : Nat) (rk : Resp)
    (hk : (run (genCfg iface tps etagOf) f0 ops)[k]? = some rk) (hp : rk.pieces = []) (hlm : rk.lm = false) :
    rk.status = 200 ∧ rk.body = some rk.file.version ∧ rk.etag = some (etagOf rk.file.mtime rk.file.size) ∧
      rk.lastMod = some (secs tps rk.file.mtime) :=
  plain_gets_200 (genCfg_facts iface tps etagOf) hk hp hlm

example :=
  plain_gets_full .wsgi 2 etagU exF0 exOps exWf exClock 0 (exT[0]'(by decide +kernel))
    (by decide +kernel) (by decide +kernel) (by decide +kernel)

end Baize.Conditional
