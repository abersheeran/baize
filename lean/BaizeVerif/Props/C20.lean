/-
C20 — middleware is transparent to what it does not change.

The inner application is abstract (`WApp`, `AApp`), so every theorem below holds for ALL inner applications.
`stackW hs a` / `stackA hs a` is the real relay (Model/Middleware.lean, the code as repaired by fixes/C20-*.patch)
iterated once per handler.  Observations (`Obs`): status code, header lines with lower-cased names (compared as a
multiset: `List.Perm`), concatenated body bytes, escaping exception, and the field `calls`, which a layer hands on
(`*_inner_once`).
-/
import BaizeVerif.Lemmas.Middleware

namespace Baize.Middleware

def ObsEq (a b : Obs) : Prop :=
  a.status = b.status ∧ a.headers.Perm b.headers ∧ a.body = b.body ∧ a.err = b.err ∧ a.calls = b.calls

def ObsEqExcept (k : Bytes) (a b : Obs) : Prop :=
  a.status = b.status ∧
  (a.headers.filter fun x => decide (x.1 ≠ k)).Perm (b.headers.filter fun x => decide (x.1 ≠ k)) ∧
  a.body = b.body ∧ a.err = b.err ∧ a.calls = b.calls

section
variable {a b : Obs} (h : ObsEq a b)
include h

theorem ObsEq.status : a.status = b.status := h.1
theorem ObsEq.headers : a.headers.Perm b.headers := h.2.1
theorem ObsEq.body : a.body = b.body := h.2.2.1
theorem ObsEq.err : a.err = b.err := h.2.2.2.1
theorem ObsEq.calls : a.calls = b.calls := h.2.2.2.2

end

theorem ObsEqExcept_iff {k : Bytes} {a b : Obs} : ObsEqExcept k a b ↔
    ObsEq { a with headers := a.headers.filter fun x => decide (x.1 ≠ k) }
      { b with headers := b.headers.filter fun x => decide (x.1 ≠ k) } := Iff.rfl

theorem ObsEq.refl (a : Obs) : ObsEq a a := ⟨rfl, List.Perm.refl _, rfl, rfl, rfl⟩

theorem ObsEq.trans {a b c : Obs} (h1 : ObsEq a b) (h2 : ObsEq b c) : ObsEq a c :=
  ⟨h1.status.trans h2.status, h1.headers.trans h2.headers, h1.body.trans h2.body, h1.err.trans h2.err,
   h1.calls.trans h2.calls⟩

theorem ObsEq.except {a b : Obs} (k : Bytes) (h : ObsEq a b) : ObsEqExcept k a b :=
  ⟨h.status, h.headers.filter _, h.body, h.err, h.calls⟩

theorem ObsEqExcept.trans {k : Bytes} {a b c : Obs} (h1 : ObsEqExcept k a b) (h2 : ObsEqExcept k b c) :
    ObsEqExcept k a c :=
  ObsEqExcept_iff.2 ((ObsEqExcept_iff.1 h1).trans (ObsEqExcept_iff.1 h2))

/-- The relay parses the code out of the status LINE and renders a line again; the line it renders parses back to the
code (`int(StatusStringMapping[c].split(" ")[0]) == c`, table and fallback). -/
theorem statusLine_roundtrip (c : Nat) : parseStatus (statusLine c) = some c := by
  unfold statusLine
  split
  · rename_i t ht
    exact statusTable_parses (c, t) (tableLookup_mem _ _ _ ht)
  · have : Gen.Middleware.unknownSuffix
        = Gen.Middleware.statusSplitChar :: Gen.Middleware.unknownSuffix.tail := by decide
    rw [this]
    exact parseStatus_digits_then_sep c _

example : statusLine 299 = [50, 57, 57] ++ Gen.Middleware.unknownSuffix ∧ parseStatus (statusLine 299) = some 299 := by
  decide

/-- An unedited response leaves the relay with exactly the header lines the application sent (as a multiset, names
lower-cased): repeated names - several Set-Cookie lines - stay separate lines. -/
theorem unfold_folded_perm (raw : List Hdr) :
    (normH (unfoldLines (foldHeaders (foldHeaders raw)) raw)).Perm (normH raw) := by
  rw [foldHeaders_idem]
  exact relay_ident raw

example : unfoldLines (foldHeaders (foldHeaders [([83], [1]), ([115], [2]), ([120], [3])])) [([83], [1]), ([115], [2]), ([120], [3])]
    = [([115], [1]), ([115], [2]), ([120], [3])] := by decide

/-- Why the relay keeps the captured lines: writing out the folded mapping itself, as baize did before fixes/C20-01
(DESIGN §6 #24), loses lines - two Set-Cookie lines become one. -/
theorem folding_relay_loses_lines_witness :
    ¬ (normH (foldHeaders [([115, 101, 116, 45, 99, 111, 111, 107, 105, 101], [97, 61, 49]),
                            ([115, 101, 116, 45, 99, 111, 111, 107, 105, 101], [98, 61, 50])])).Perm
        (normH [([115, 101, 116, 45, 99, 111, 111, 107, 105, 101], [97, 61, 49]),
                ([115, 101, 116, 45, 99, 111, 111, 107, 105, 101], [98, 61, 50])]) := by
  intro h
  have := h.length_eq
  revert this
  decide

theorem ObsEq.relay {o : Obs} {raw : List Hdr} (h : o.headers = normH raw) :
    ObsEq { o with headers := normH (unfoldLines (foldHeaders raw) raw) } o :=
  ⟨rfl, h ▸ relay_ident raw, rfl, rfl, rfl⟩

theorem ObsEqExcept.relay {o : Obs} {raw : List Hdr} (k v : Bytes) (h : o.headers = normH raw) :
    ObsEqExcept (lower k) { o with headers := normH (unfoldLines (setItem (foldHeaders raw) k v) raw) } o :=
  ⟨rfl, h ▸ relay_set_other raw k v, rfl, rfl, rfl⟩

/-! `stackW` and `stackA` are `List.foldr` of the layer function; what follows needs to know of a layer only what it
does to the observation of one application. -/

section Stack
variable {A : Type} {wrap : Handler → A → A} {legal : A → Bool} {obs : A → Obs}

theorem stack_calls {calls : A → Nat} (step : ∀ h a, calls (wrap h a) = calls a) (hs : List Handler) (a : A) :
    calls (hs.foldr wrap a) = calls a := by
  induction hs with
  | nil => rfl
  | cons h hs ih => rw [List.foldr_cons, step, ih]

theorem stack_fixed (hs : List Handler) {a : A} (step : ∀ h ∈ hs, wrap h a = a) : hs.foldr wrap a = a := by
  induction hs with
  | nil => rfl
  | cons h hs ih => rw [List.foldr_cons, ih fun x hx => step x (List.mem_cons_of_mem _ hx), step h List.mem_cons_self]

variable (step : ∀ a, legal a = true → legal (wrap .ident a) = true ∧ ObsEq (obs (wrap .ident a)) (obs a))
include step

theorem stack_ident (n : Nat) (a : A) (hl : legal a = true) :
    ObsEq (obs ((List.replicate n Handler.ident).foldr wrap a)) (obs a) ∧
      legal ((List.replicate n Handler.ident).foldr wrap a) = true := by
  induction n with
  | zero => exact ⟨ObsEq.refl _, hl⟩
  | succ n ih => exact ⟨(step _ ih.2).2.trans ih.1, (step _ ih.2).1⟩

theorem stack_edit {h : Handler} {k : Bytes}
    (edit : ∀ a, legal a = true → legal (wrap h a) = true ∧ ObsEqExcept k (obs (wrap h a)) (obs a))
    (n m : Nat) (a : A) (hl : legal a = true) :
    ObsEqExcept k (obs ((List.replicate n Handler.ident ++ h :: List.replicate m .ident).foldr wrap a)) (obs a) := by
  have inner := stack_ident step m a hl
  have mid := edit _ inner.2
  rw [List.foldr_append]
  exact (((stack_ident step n _ mid.1).1.except _).trans mid.2).trans (inner.1.except _)

end Stack

/-- One layer whose edit succeeds, around a legal application: either the application commits to nothing and neither
does the layer, or the header lines are all that changes. -/
theorem wrapW_step (h : Handler) (a : WApp) (hl : a.legal = true) (d : Dict)
    (hd : h.apply (foldHeaders a.headers) = .ok d) :
    (wrapW h a).legal = true ∧
    ((a.err.isSome = true ∧ a.chunks.flatten = []) ∧ (wrapW h a).obs = a.obs ∨
     (wrapW h a).obs = { a.obs with headers := normH (unfoldLines d a.headers) } ∧
       a.obs.headers = normH a.headers) := by
  by_cases hr : a.chunks = [] ∧ a.err.isSome = true
  · rw [wrapW_raise_at_once h a hl hr, obs_raising, obs_of_raise_at_once a hr,
      Option.getD_of_ne_none (Option.isSome_iff_ne_none.1 hr.2)]
    exact ⟨legal_raising _ _, .inl ⟨⟨hr.2, by simp [hr.1]⟩, rfl⟩⟩
  · obtain ⟨hs, c, hp⟩ := (a.legal_cases hl).resolve_right fun h => hr h.2
    rw [wrapW_ok h a c d hs hp hr hd]
    refine ⟨by simp [WApp.legal, statusLine_roundtrip], ?_⟩
    by_cases hu : a.err.isSome = true ∧ a.chunks.flatten = []
    · exact .inl ⟨hu, by simp only [WApp.obs, if_pos hu]⟩
    · exact .inr (by simp only [WApp.obs, if_neg hu, statusLine_roundtrip, hp, and_self])

theorem wrapW_ident (a : WApp) (hl : a.legal = true) :
    (wrapW .ident a).legal = true ∧ ObsEq (wrapW .ident a).obs a.obs := by
  obtain ⟨h1, ⟨_, h2⟩ | ⟨h2, h3⟩⟩ := wrapW_step .ident a hl _ rfl
  · exact ⟨h1, h2 ▸ ObsEq.refl _⟩
  · exact ⟨h1, h2 ▸ ObsEq.relay h3⟩

/-- **Identity middleware of any depth is transparent (WSGI)**, for every inner application that calls start_response
before its first chunk with a numeric status line, or raises before it starts (`legal`). -/
theorem wsgi_identity_transparent (n : Nat) (a : WApp) (hl : a.legal = true) :
    ObsEq (stackW (List.replicate n .ident) a).obs a.obs ∧ (stackW (List.replicate n .ident) a).legal = true :=
  stack_ident wrapW_ident n a hl

/-- a streamed body with two Set-Cookie lines, an unknown status code and a custom phrase -/
def exampleW : WApp :=
  { startAt := some 0, status := [50, 57, 57, 32, 70], headers := [([83], [1]), ([115], [2]), ([88], [3])],
    chunks := [[1, 2], [], [3]], err := none, calls := 1 }

example : exampleW.legal = true ∧
    (stackW (List.replicate 3 .ident) exampleW).obs
      = ⟨some 299, [([115], [1]), ([115], [2]), ([120], [3])], [1, 2, 3], none, 1⟩ := by decide

/-- The hypothesis is needed: an application that calls start_response only after its first chunk (outside PEP 3333)
gets the relay's default status. -/
theorem wsgi_needs_start_before_first_chunk_witness :
    (wrapW .ident { exampleW with startAt := some 1 }).obs.status = some 200 ∧
    ({ exampleW with startAt := some 1 } : WApp).obs.status = some 299 := by decide

/-- **A handler that sets one header changes only that header (WSGI)**: all else is as in the bare application; when
the application committed to something (it did not raise before its first body byte: otherwise no header is sent at
all), the header itself is the single line the handler set (unless it wrote back exactly the folded value it read,
which changes nothing). -/
theorem wsgi_edit_one_header (k v : Bytes) (a : WApp) (hl : a.legal = true)
    (hk : hasCtl k = false) (hv : hasCtl v = false) :
    (wrapW (.setHeader k v) a).legal = true ∧
    ObsEqExcept (lower k) (wrapW (.setHeader k v) a).obs a.obs ∧
    (¬(a.err.isSome = true ∧ a.chunks.flatten = []) → lookup (foldHeaders a.headers) (lower k) ≠ some v →
      (wrapW (.setHeader k v) a).obs.headers.filter (fun x => decide (x.1 = lower k)) = [(lower k, v)]) := by
  obtain ⟨h1, ⟨hu, h2⟩ | ⟨h2, h3⟩⟩ := wrapW_step (.setHeader k v) a hl _ (Handler.apply_setHeader hk hv _)
  · exact ⟨h1, h2 ▸ (ObsEq.refl _).except _, fun hcommit => absurd hu hcommit⟩
  · exact ⟨h1, h2 ▸ ObsEqExcept.relay k v h3, fun _ hne => h2 ▸ relay_set_self a.headers k v hne⟩

example : (wrapW (.setHeader [83] [9]) exampleW).obs
    = ⟨some 299, [([115], [9]), ([120], [3])], [1, 2, 3], none, 1⟩ ∧
    hasCtl [83] = false ∧ lookup (foldHeaders exampleW.headers) (lower [83]) ≠ some [9] := by decide

/-- One editing layer anywhere in a stack of identity layers changes only the lines of the header it sets. -/
theorem wsgi_edit_in_stack (n m : Nat) (k v : Bytes) (a : WApp) (hl : a.legal = true)
    (hk : hasCtl k = false) (hv : hasCtl v = false) :
    ObsEqExcept (lower k)
      (stackW (List.replicate n .ident ++ .setHeader k v :: List.replicate m .ident) a).obs a.obs := by
  exact stack_edit wrapW_ident (fun a hl => (wsgi_edit_one_header k v a hl hk hv).imp_right And.left) n m a hl

example : (stackW (List.replicate 1 .ident ++ .setHeader [83] [9] :: List.replicate 1 .ident) exampleW).obs
    = ⟨some 299, [([115], [9]), ([120], [3])], [1, 2, 3], none, 1⟩ := by decide

/-- **`calls` passes through a stack of any depth (WSGI)**, whatever the handlers and the application do.  `wrapW`
copies the field in every branch - a layer of the model has no way of invoking the application twice - so this holds by
construction; that the real middleware runs the inner application once is what the invocation counter of
harness/c20.py checks. -/
theorem wsgi_inner_once (hs : List Handler) (a : WApp) : (stackW hs a).calls = a.calls :=
  stack_calls wrapW_calls hs a

example : (stackW [.ident, .setHeader [83] [10], .ident] exampleW).calls = 1 ∧
    (stackW [.ident, .setHeader [83] [10], .ident] exampleW).err = some "ValueError" := by decide

/-- **Errors propagate (WSGI)**: when the inner application raises, the same exception escapes an identity stack of any
depth, after the same body bytes. -/
theorem wsgi_error_propagates (n : Nat) (a : WApp) (e : String) (hl : a.legal = true) (he : a.err = some e) :
    (stackW (List.replicate n .ident) a).obs.err = some e ∧
    (stackW (List.replicate n .ident) a).obs.body = a.obs.body := by
  have h := (wsgi_identity_transparent n a hl).1
  refine ⟨?_, h.body⟩
  rw [h.err]
  simp only [WApp.obs]
  split <;> exact he

example : (stackW (List.replicate 2 .ident) { exampleW with err := some "Boom" }).obs
    = ⟨some 299, [([115], [1]), ([115], [2]), ([120], [3])], [1, 2, 3], some "Boom", 1⟩ := by decide

/-- As `wrapW_step`, without its first case.  The header list `hd` of the start event is known only from the legality
of `a`, so what the handler makes of it is given as a function `d` of it. -/
theorem wrapA_step (h : Handler) (a : AApp) (hl : a.legal = true) (d : List Hdr → Dict)
    (hap : ∀ hd, h.apply (foldHeaders hd) = .ok (d hd))
    (hlat : ∀ hd, headersLatin1 hd = true → headersLatin1 (unfoldLines (d hd) hd) = true) :
    ∃ s hd, firstStart a.events = some (s, hd) ∧ (wrapA h a).legal = true ∧
      (wrapA h a).obs = { a.obs with headers := normH (unfoldLines (d hd) hd) } ∧ a.obs.headers = normH hd := by
  obtain ⟨s, hd, bs, hev, hb, he, hh⟩ := a.legal_cases hl
  refine ⟨s, hd, by simp [hev, firstStart], ?_⟩
  rw [wrapA_ok h a s hd bs (d hd) hev hb he (hap hd) (hlat hd hh)]
  refine ⟨by simp [AApp.legal, (reread_bodies _).1, hlat hd hh], ?_, by simp [AApp.obs, firstStart, hev]⟩
  simp only [AApp.obs, hev, firstStart, List.cons_append, List.map_cons, evData, List.flatten_cons, List.nil_append,
    (reread_bodies _).2, pieces_flatten Gen.Middleware.rereadSize _ (by decide), he, Option.map_some, Option.getD_some]

theorem wrapA_ident (a : AApp) (hl : a.legal = true) :
    (wrapA .ident a).legal = true ∧ ObsEq (wrapA .ident a).obs a.obs := by
  obtain ⟨s, hd, _, h1, h2, h3⟩ :=
    wrapA_step .ident a hl foldHeaders (fun _ => rfl)
      (fun hd hh => headersLatin1_unfoldLines _ _ (headersLatin1_foldHeaders hd hh) hh)
  exact ⟨h1, h2 ▸ ObsEq.relay h3⟩

/-- **Identity middleware of any depth is transparent (ASGI)**, for every inner application that sends a complete
response (start, then body / zero-copy events with more_body false on the last and only there); the body bytes come
re-chunked into 64 KiB pieces. -/
theorem asgi_identity_transparent (n : Nat) (a : AApp) (hl : a.legal = true) :
    ObsEq (stackA (List.replicate n .ident) a).obs a.obs ∧ (stackA (List.replicate n .ident) a).legal = true :=
  stack_ident wrapA_ident n a hl

/-- a file sent zero-copy between two body events, two Set-Cookie lines, status 599 -/
def exampleA : AApp :=
  { events := [.start 599 [([115], [1]), ([115], [2]), ([120], [255])], .body [1, 2] true, .zerocopy [7, 8, 9] true,
               .body [] false],
    err := none, calls := 1 }

example : exampleA.legal = true ∧
    (stackA (List.replicate 3 .ident) exampleA).obs
      = ⟨some 599, [([115], [1]), ([115], [2]), ([120], [255])], [1, 2, 7, 8, 9], none, 1⟩ := by decide

/-- The hypothesis is needed: a response that never sends its final body event is not rewound by the relay, and its
bytes are lost. -/
theorem asgi_needs_complete_response_witness :
    (wrapA .ident { exampleA with events := [.start 200 [], .body [1, 2] true] }).obs.body = [] ∧
    ({ exampleA with events := [.start 200 [], .body [1, 2] true] } : AApp).obs.body = [1, 2] := by decide

/-- **A handler that sets one header changes only that header (ASGI).** -/
theorem asgi_edit_one_header (k v : Bytes) (a : AApp) (hl : a.legal = true)
    (hk : hasCtl k = false) (hv : hasCtl v = false) (hk1 : latin1 k = true) (hv1 : latin1 v = true) :
    (wrapA (.setHeader k v) a).legal = true ∧
    ObsEqExcept (lower k) (wrapA (.setHeader k v) a).obs a.obs ∧
    (∀ s hd, firstStart a.events = some (s, hd) → lookup (foldHeaders hd) (lower k) ≠ some v →
      (wrapA (.setHeader k v) a).obs.headers.filter (fun x => decide (x.1 = lower k)) = [(lower k, v)]) := by
  obtain ⟨s, hd, hfs, h1, h2, h3⟩ :=
    wrapA_step (.setHeader k v) a hl (fun hd => setItem (foldHeaders hd) k v)
      (fun _ => Handler.apply_setHeader hk hv _)
      (fun hd hh =>
        headersLatin1_unfoldLines _ _ (headersLatin1_setItem _ k v (headersLatin1_foldHeaders hd hh) hk1 hv1) hh)
  refine ⟨h1, h2 ▸ ObsEqExcept.relay k v h3, fun s' hd' hfs' hne => ?_⟩
  obtain ⟨_, rfl⟩ := Prod.mk.inj (Option.some.inj (hfs.symm.trans hfs'))
  exact h2 ▸ relay_set_self hd k v hne

example : (wrapA (.setHeader [83] [9]) exampleA).obs
    = ⟨some 599, [([115], [9]), ([120], [255])], [1, 2, 7, 8, 9], none, 1⟩ := by decide

theorem asgi_edit_in_stack (n m : Nat) (k v : Bytes) (a : AApp) (hl : a.legal = true)
    (hk : hasCtl k = false) (hv : hasCtl v = false) (hk1 : latin1 k = true) (hv1 : latin1 v = true) :
    ObsEqExcept (lower k)
      (stackA (List.replicate n .ident ++ .setHeader k v :: List.replicate m .ident) a).obs a.obs := by
  exact stack_edit wrapA_ident (fun a hl => (asgi_edit_one_header k v a hl hk hv hk1 hv1).imp_right And.left)
    n m a hl

example : (stackA (List.replicate 1 .ident ++ .setHeader [83] [9] :: List.replicate 1 .ident) exampleA).obs
    = ⟨some 599, [([115], [9]), ([120], [255])], [1, 2, 7, 8, 9], none, 1⟩ := by decide

/-- **`calls` passes through a stack of any depth (ASGI)**; as for WSGI, `wrapA` can only copy it. -/
theorem asgi_inner_once (hs : List Handler) (a : AApp) : (stackA hs a).calls = a.calls :=
  stack_calls wrapA_calls hs a

example : (stackA [.ident, .setHeader [83] [256], .ident] exampleA).calls = 1 ∧
    (stackA [.ident, .setHeader [83] [256], .ident] exampleA).err = some "UnicodeEncodeError" := by decide

/-- **Errors propagate (ASGI)**: when the inner application raises (whatever it sent before, as long as the relay
accepted it), the same exception escapes a stack of any depth >= 1 and nothing has been sent - a prefix of what the
bare application sent. -/
theorem asgi_error_propagates (hs : List Handler) (h : Handler) (a : AApp) (e : String) (r : Relay)
    (he : a.err = some e) (hr : relayRun Relay.init a.events = .ok r) :
    stackA (hs ++ [h]) a = AApp.raising e a.calls := by
  have h1 : wrapA h a = AApp.raising e a.calls := by
    unfold wrapA
    simp only [hr, he]
  rw [stackA, List.foldr_append, List.foldr_cons, List.foldr_nil, h1]
  exact stack_fixed hs fun x _ => wrapA_raising x e _

example : stackA ([.ident] ++ [.ident]) { exampleA with events := exampleA.events.take 2, err := some "Boom" }
    = AApp.raising "Boom" 1 := by decide

/-- **Decorator transparency**: `decorator(identity handler)` applied `n` times to a view returns the very response (or
raises the very exception) of the view; the view is run once. -/
theorem decorator_transparent (n : Nat) (view : Except String Resp) :
    stackD (List.replicate n .ident) view = view := by
  refine stack_fixed _ fun h hh => ?_
  rw [List.eq_of_mem_replicate hh]
  cases view <;> rfl

example : stackD (List.replicate 3 .ident) (.ok ⟨299, [([115], [1])], 1⟩) = .ok ⟨299, [([115], [1])], 1⟩ := rfl

/-- a decorating handler that sets one header changes that entry of the response's header mapping and no other; status
and invocation count are kept -/
theorem decorator_edit_one_header (k v : Bytes) (r : Resp) (hk : hasCtl k = false) (hv : hasCtl v = false) :
    ∃ r', decorate (.setHeader k v) (.ok r) = .ok r' ∧ r'.status = r.status ∧ r'.calls = r.calls ∧
      lookup r'.headers (lower k) = some v ∧ ∀ k', k' ≠ lower k → lookup r'.headers k' = lookup r.headers k' := by
  exact ⟨{ r with headers := setItem r.headers k v }, by simp [decorate, Handler.apply_setHeader hk hv], rfl, rfl,
    lookup_setItem_self _ _ _, fun k' hk' => lookup_setItem_other _ _ _ _ hk'⟩

example : decorate (.setHeader [83] [9]) (.ok ⟨299, [([115], [1]), ([120], [2])], 1⟩)
    = .ok ⟨299, [([115], [9]), ([120], [2])], 1⟩ := by rfl

/-- Shapes of the source the proofs rely on: the status code is the FIRST token of the status line split at a space, the
fallback line puts that separator right after the code, the capturing `send` reacts to start / body / zero-copy
messages, the re-read size is positive, both relays default to the same status. -/
theorem source_pinned :
    Gen.Middleware.statusSplitIndex = 0 ∧ Gen.Middleware.statusSplitChar = 32 ∧
    Gen.Middleware.unknownSuffix.head? = some Gen.Middleware.statusSplitChar ∧
    Gen.Middleware.relayedTypes = ["http.response.start", "http.response.body", "http.response.zerocopysend"] ∧
    0 < Gen.Middleware.rereadSize ∧ Gen.Middleware.wsgiDefaultStatus = Gen.Middleware.asgiDefaultStatus := by
  decide

end Baize.Middleware
