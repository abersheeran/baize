/-
C17 — multi-value mappings stay consistent under any operation sequence.

The vocabulary (`Spec.*` = plain pair lists, `Inv`, `ValidStr`) is in Lemmas/MultiMapSpec.lean.
-/
import BaizeVerif.Lemmas.MultiMap

namespace Baize.MultiMap
open Spec

/-! ### 1. The invariant holds in every reachable state -/

/-- every constructor form (None, iterable of pairs, Mapping, MultiMapping) establishes it -/
theorem init_inv (raw : Raw) : Inv (init raw) := mk_inv _

example : Inv (init (.mapping [(0, 1), (1, 2), (0, 3)])) := init_inv _
example : init (.mapping [(0, 1), (1, 2), (0, 3)]) = ⟨[(0, 3), (1, 2)], [(0, 3), (1, 2)]⟩ := by decide +kernel

theorem step_inv (s : State) (op : Op) (h : Inv s) : Inv (step s op).1 := (step_spec op h).1

example : Inv (step (init (.pairs [(0, 1), (1, 2), (0, 3)])) (.setlist 0 [7, 8])).1 :=
  step_inv _ _ (init_inv _)
-- the dict keeps key 0 in front while its pairs moved behind key 1: the two orders differ
example : (step (init (.pairs [(0, 1), (1, 2), (0, 3)])) (.setlist 0 [7, 8])).1 =
    ⟨[(0, 8), (1, 2)], [(1, 2), (0, 7), (0, 8)]⟩ := by decide +kernel

/-- **for every constructor input and every operation sequence the two representations agree** -/
theorem reachable_inv (raw : Raw) (ops : List Op) : Inv (run (init raw) ops).1 :=
  (run_spec ops (init_inv raw)).1

example : Inv (run (init (.pairs [(0, 1), (0, 2), (1, 3)]))
    [.setlist 0 [5], .append 1 4, .popitem, .setdefault 0 9, .updateMapping [(1, 1), (2, 2), (1, 6)]]).1 :=
  reachable_inv _ _
example : run (init (.pairs [(0, 1), (0, 2), (1, 3)]))
    [.setlist 0 [5], .append 1 4, .popitem, .setdefault 0 9, .updateMapping [(1, 1), (2, 2), (1, 6)]] =
    (⟨[(1, 6), (0, 9), (2, 2)], [(1, 6), (0, 9), (2, 2)]⟩,
      [.none, .none, .item 0 5, .val 9, .none]) := by decide +kernel

/-! ### 2. The views are the views of the plain pair list -/

/-- indexing gives the last value of the key, KeyError (`none`) iff there is none -/
theorem views_agree (s : State) (h : Inv s) :
    multiItems s = s.list ∧
    (∀ k, getlist s k = values s.list k) ∧
    (∀ k, getitem s k = (getlist s k).getLast?) ∧
    (∀ k, contains s k = true ↔ k ∈ s.list.map (·.1)) := by
  exact ⟨rfl, fun _ => rfl, fun k => h.2 k, fun k => (contains_iff s k).trans (mem_keys_iff h k)⟩

example : getitem (step (init (.pairs [(0, 1), (1, 2), (0, 3)])) (.append 1 5)).1 1 = some 5 := by decide +kernel

/-- as a set: the dict's own key order is compared by the correspondence check, not claimed -/
theorem keys_perm_distinct (s : State) (h : Inv s) :
    (keys s).Perm (distinct (s.list.map (·.1))) ∧ len s = (distinct (s.list.map (·.1))).length := by
  have hp := keys_perm h
  refine ⟨hp, ?_⟩
  have := hp.length_eq
  simpa [keys, len] using this

example : keys (step (init (.pairs [(0, 1), (1, 2), (0, 3)])) (.setlist 0 [7, 8])).1 = [0, 1] ∧
    distinct ((step (init (.pairs [(0, 1), (1, 2), (0, 3)])) (.setlist 0 [7, 8])).1.list.map (·.1)) = [1, 0] := by
  decide +kernel

/-- `==` as repaired by fix C17-01 (the `list.remove` loop) -/
theorem eq_iff_perm (a b : State) : eq a b = true ↔ a.list.Perm b.list := eqLists_iff _ _

example : eq (mk [(0, 1), (1, 2), (0, 3)]) (mk [(0, 3), (0, 1), (1, 2)]) = true := by decide +kernel
example : eq (mk [(0, 1), (1, 2), (0, 3)]) (mk [(0, 3), (0, 3), (1, 2)]) = false := by decide +kernel

/-! ### 3. Each operation is the abstract pair-list operation -/

/-- `__setitem__`'s index surgery: collect the indexes of the key, walk them backwards, overwrite the
first, delete the others; append when there is none -/
theorem setitem_surgery (s : State) (k v : Nat) : (setitem s k v).list = assign s.list k v :=
  setitem_list s k v

example : (setitem (mk [(1, 1), (0, 1), (1, 2), (0, 2), (0, 3)]) 0 9).list = [(1, 1), (0, 9), (1, 2)] := by
  decide +kernel

/-- **refinement**, the answer (value, value list, item or KeyError) included -/
theorem refines_pairlist (s : State) (op : Op) (h : Inv s) :
    Step s.list op (step s op).1.list (step s op).2 := (step_spec op h).2

example : Step [(0, 1), (1, 2), (0, 3)] (.pop 0) [(1, 2)] (.val 3) :=
  refines_pairlist (init (.pairs [(0, 1), (1, 2), (0, 3)])) (.pop 0) (init_inv _)

theorem run_refines (raw : Raw) (ops : List Op) :
    Run (initial raw) ops (run (init raw) ops).1.list (run (init raw) ops).2 := by
  have := (run_spec ops (init_inv raw)).2
  rwa [init_list] at this

example : Run [(0, 1), (0, 2)] [.delitem 1, .poplist 0, .popitem] [] [.keyError, .vals [1, 2], .keyError] :=
  run_refines (.pairs [(0, 1), (0, 2)]) [.delitem 1, .poplist 0, .popitem]

/-- `clear` is the inherited popitem loop -/
theorem clear_empties (s : State) (h : Inv s) : clear s = { dict := [], list := [] } := clear_spec h

example : clear (init (.pairs [(0, 1), (1, 2), (0, 3)])) = ⟨[], []⟩ := by decide +kernel

/-! ### 4. Query-string and form mappings -/

/-- `MultiMapping`, `MutableMultiMapping`, `QueryParams` (non-string input) and `FormData` all run
`MultiMapping.__init__` and the same view methods (`source_pinned`), so one statement covers them -/
theorem same_views (raw : Raw) :
    multiItems (init raw) = initial raw ∧
    (∀ k, getlist (init raw) k = values (initial raw) k) ∧
    (∀ k, getitem (init raw) k = last (initial raw) k) ∧
    (∀ k, contains (init raw) k = true ↔ k ∈ (initial raw).map (·.1)) ∧
    (keys (init raw)).Perm (distinct ((initial raw).map (·.1))) ∧
    len (init raw) = (distinct ((initial raw).map (·.1))).length := by
  have h := init_inv raw
  have hv := views_agree _ h
  have hk := keys_perm_distinct _ h
  rw [init_list] at hv hk
  refine ⟨hv.1, hv.2.1, ?_, hv.2.2.2, hk.1, hk.2⟩
  intro k
  rw [hv.2.2.1 k, hv.2.1 k]
  rfl

example : getitem (init (.multi [(0, 1), (1, 2), (0, 3)])) 0 = some 3 := by decide +kernel

/-- strict UTF-8 encoding, then decoding with errors="replace", on strings without lone surrogates -/
theorem utf8_roundtrip (s : Str) (hs : ValidStr s) :
    ∃ bs, utf8EncStr s = some bs ∧ utf8Dec none bs = s := by
  obtain ⟨bs, h⟩ := Option.isSome_iff_exists.mp ((utf8EncStr_isSome s).mpr hs)
  exact ⟨bs, h, (utf8EncStr_dec h).2⟩

example : utf8EncStr [0x41, 0xE9, 0x20AC, 0x1F600, 0xD7FF, 0x10FFFF] =
    some [0x41, 0xC3, 0xA9, 0xE2, 0x82, 0xAC, 0xF0, 0x9F, 0x98, 0x80, 0xED, 0x9F, 0xBF, 0xF4, 0x8F, 0xBF, 0xBF] := by
  decide +kernel

/-- `str(QueryParams)` raises (UnicodeEncodeError) exactly when a key or value holds a lone
surrogate -/
theorem urlencode_ok_iff (ps : List (Str × Str)) :
    (urlencode ps).isSome ↔ ∀ p ∈ ps, ValidStr p.1 ∧ ValidStr p.2 := by
  rw [urlencode, Option.isSome_map, encFields_isSome]

/-- **`parse_qsl(urlencode(ps), keep_blank_values=True) = ps`**, blank keys and values, `&=+%`,
non-ASCII and astral characters included.  The flag is the one extracted from the source: with
`keep_blank_values=False` the statement is false. -/
theorem query_roundtrip (ps : List (Str × Str)) (h : ∀ p ∈ ps, ValidStr p.1 ∧ ValidStr p.2) :
    ∃ s, urlencode ps = some s ∧ queryOfStr s = ps := by
  obtain ⟨fs, hfs⟩ := Option.isSome_iff_exists.mp ((encFields_isSome ps).mpr h)
  obtain ⟨hch, hparse⟩ := encFields_spec hfs
  refine ⟨joinAmp fs, by simp [urlencode, hfs], ?_⟩
  rw [queryOfStr, show Gen.MultiMap.keepBlankStr = true from rfl, parseQsl_eq]
  cases fs with
  | nil => exact hparse
  | cons f r => rw [splitOn_joinAmp f r hch, hparse]

example : urlencode [([97, 32, 0xE9], [38, 61]), ([], [])] =
    some [97, 43, 37, 67, 51, 37, 65, 57, 61, 37, 50, 54, 37, 51, 68, 38, 61] := by decide +kernel
example : queryOfStr [97, 43, 37, 67, 51, 37, 65, 57, 61, 37, 50, 54, 37, 51, 68, 38, 61] =
    [([97, 32, 0xE9], [38, 61]), ([], [])] := by decide +kernel

/-- hence `QueryParams(str(q)) == q` -/
theorem queryparams_roundtrip_eq (ps : List (Str × Str)) (h : ∀ p ∈ ps, ValidStr p.1 ∧ ValidStr p.2) :
    ∃ s, urlencode ps = some s ∧ eqLists (queryOfStr s) ps = true := by
  obtain ⟨s, h1, h2⟩ := query_roundtrip ps h
  exact ⟨s, h1, by rw [h2]; exact (eqLists_iff _ _).mpr (List.Perm.refl _)⟩

example : ∀ p ∈ [([97, 32, 0xE9], [38, 61]), (([], []) : Str × Str)], ValidStr p.1 ∧ ValidStr p.2 := by
  decide +kernel

/-- the hypothesis is needed: a lone surrogate has no string form at all -/
theorem surrogate_witness : urlencode [([0xD800], [120])] = none ∧ ¬ ValidStr [0xD800] := by decide +kernel

/-! ### 5. Source facts the model was written for (regenerated from /repo on every run) -/

/-- `QueryParams` parses `str` and `bytes` with `keep_blank_values=True` (bytes decoded as latin-1,
i.e. code point = byte) and prints with plain `urlencode`; `__setitem__` keeps `indexes[0]`;
`setlist` stores `values[-1]` in the dict; `FormData` and `QueryParams` override neither a view nor
(`FormData`) the constructor; the mutators of `MutableMultiMapping` are the five modelled ones (the
rest is inherited from `collections.abc.MutableMapping`) -/
theorem source_pinned :
    Gen.MultiMap.keepBlankStr = true ∧ Gen.MultiMap.keepBlankBytes = true ∧
    Gen.MultiMap.bytesCodec = "latin-1" ∧ Gen.MultiMap.strEncoder = "urlencode" ∧
    Gen.MultiMap.setitemKeepIndex = 0 ∧ Gen.MultiMap.setlistDictIndex = -1 ∧
    Gen.MultiMap.multiMappingMethods =
      ["__init__", "__getitem__", "__iter__", "__len__", "getlist", "multi_items", "__eq__", "__repr__"] ∧
    Gen.MultiMap.mutableMethods = ["__setitem__", "__delitem__", "setlist", "poplist", "append"] ∧
    Gen.MultiMap.queryParamsMethods = ["__init__", "__str__", "__repr__"] ∧
    (∀ m ∈ Gen.MultiMap.formDataMethods, m ∉ Gen.MultiMap.multiMappingMethods) := by
  decide +kernel

end Baize.MultiMap
