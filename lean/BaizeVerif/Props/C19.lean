/-
C19 — server-sent events reach the client as they were yielded.

The encoder `encodeEvent` / `wire` (model of `build_bytes_from_sse` and of what
`SendEventResponse.render_stream` yields) against the client `parseStream` (WHATWG event stream
interpretation), both in `Model/SSE.lean`: over code points, for every data text, every list of
fields and every list of yielded items, without bounds.  The vocabulary of the statements
(`Field.WF`, `expected`, `delivered`, `KeepAlive`) is in `Lemmas/SSEClient.lean`.

The tags **C19.n** are the numbers of the theorem list in `notes/C19.md`; 5 and 6 stand in front of
1–4 because `expected` is stated through `normData`.
-/
import BaizeVerif.Lemmas.SSEClient

namespace Baize.SSE

/-- **C19.10** tie to the source: the model was written for exactly these line
formats, this joiner / terminator, this splitter pattern and these dictionary
keys (all regenerated from /repo on every run). -/
theorem source_pinned :
    Gen.SSE.fieldSep = [58, 32] ∧ Gen.SSE.dataPrefix = keyData ++ [58, 32] ∧
    Gen.SSE.joiner = [10] ∧ Gen.SSE.terminator = [[], []] ∧
    Gen.SSE.splitter = "re.split:\\r\\n|\\r|\\n" ∧
    Gen.SSE.eventKeys = [keyEvent, keyData, keyId, keyRetry] :=
  ⟨fieldSep_eq, dataPrefix_eq, joiner_eq, terminator_eq, rfl, rfl⟩

/-- **C19.5** the splitter of the encoder yields exactly the lines of the text as
ended by LF, CRLF or CR — and by nothing else: the five equations determine the
result for every text (every text is empty, a break-free rest, or a break-free
prefix followed by LF, CRLF, or a CR not followed by LF), and no other code point
(VT, FF, FS, GS, RS, NEL, U+2028, U+2029, …) plays any role in them.  A final
line break ends the last line and opens no further one. -/
theorem splitLines_spec :
    splitLines [] = [] ∧
    (∀ l, BreakFree l → l ≠ [] → splitLines l = [l]) ∧
    (∀ l rest, BreakFree l → splitLines (l ++ 10 :: rest) = l :: splitLines rest) ∧
    (∀ l rest, BreakFree l → splitLines (l ++ 13 :: 10 :: rest) = l :: splitLines rest) ∧
    (∀ l rest, BreakFree l → rest.head? ≠ some 10 →
      splitLines (l ++ 13 :: rest) = l :: splitLines rest) := by
  -- a break-free text in front of a line break is one line
  have key : ∀ {l t rest : List Nat}, BreakFree l → pieces false t = [] :: pieces false rest →
      splitLines (l ++ t) = l :: splitLines rest := by
    intro l t rest hl ht
    rw [splitLines, pieces_append hl ht, dropTrailingEmpty_cons (pieces_ne_nil _ _), List.append_nil]
    rfl
  refine ⟨rfl, fun _ => splitLines_single, fun l rest hl => key hl (by simp [pieces]),
    fun l rest hl => key hl (by simp [pieces]), ?_⟩
  intro l rest hl hr
  apply key hl
  cases rest with
  | nil => rfl
  | cons c cs =>
    have hc : c ≠ 10 := by simpa using hr
    simp [pieces, hc]

example : splitLines [97, 8232, 98, 13, 10, 13, 10, 99] = [[97, 8232, 98], [], [99]] := by decide
example : splitLines [120, 10] = [[120]] ∧ splitLines [10] = [[]] ∧ splitLines [120, 13, 10, 13] = [[120], []] := by
  decide

/-- **C19.6** what `normData` does to a text: a text without CR / LF is unchanged
(whatever other code points it contains, those named in C19.5 and NUL included),
and in general the code points other than CR / LF arrive unchanged and in order,
only line breaks are rewritten (to LF). -/
theorem normData_preserves :
    (∀ d, BreakFree d → normData d = d) ∧
    (∀ d, (normData d).filter (fun c => c ≠ 10) = d.filter (fun c => c ≠ 10 ∧ c ≠ 13)) := by
  constructor
  · intro d hd
    by_cases hne : d = []
    · subst hne; rfl
    · simp [normData, splitLines_single hd hne, joinWith]
  · intro d
    rw [normData, joinWith_filter _ (splitLines_breakFree d), splitLines, dropTrailingEmpty_flatten, pieces_flatten]

example : normData [97, 8232, 133, 11, 12, 28, 29, 30, 8233, 98] = [97, 8232, 133, 11, 12, 28, 29, 30, 8233, 98] := by
  decide

/- Full-strength statement of the property text (every single-line name and id, every integer retry):

     theorem block_roundtrip (e : Event)
         (h : ∀ f ∈ e.fields, match f with | .event v => BreakFree v | .id v => BreakFree v | .retry _ => True)
         (hv : e.vacuous = false) :
         parseStream (encodeEvent e) = [expected e]

   It is false as it stands; `block_roundtrip_partial` says what of it is proved and what is missing. -/

/-- **C19.1** block round trip: for every event whose name and id are single-line
(and, as the format demands, whose id has no NUL and whose retry is not negative)
and that says anything at all, the written block is decoded by the client into
exactly one record, with the same name, id and retry, whose data is the lines of
the original — as ended by CR, LF or CRLF only (`splitLines_spec`,
`normData_preserves`) — joined by LF.  Missing for the full statement: ids containing
U+0000 and negative retries (excluded in `Field.WF`, shown necessary by the two
`…_witness` theorems below; known findings sse-id-with-nul, sse-negative-retry). -/
theorem block_roundtrip_partial (e : Event) (h : e.WF) (hv : e.vacuous = false) :
    parseStream (encodeEvent e) = [expected e] := by
  rw [parseStream_noBOM (encodeEvent_noBOM e)]
  simpa [delivered, hv, parseBody, wireLines, interp] using parseBody_event e h []

/-- `{"event": "hi", "retry": 5, "id": "7", "data": "a\u2028b\r\n\r\nc"}` -/
def exEvent : Event :=
  ⟨[.event [104, 105], .retry 5, .id [55]], some [97, 8232, 98, 13, 10, 13, 10, 99]⟩

example : exEvent.WF ∧ exEvent.vacuous = false := by decide
example : expected exEvent = ⟨some [104, 105], some [55], some 5, [97, 8232, 98, 10, 10, 99]⟩ := by decide
example : parseStream (encodeEvent exEvent) = [expected exEvent] := block_roundtrip_partial exEvent (by decide) (by decide)
-- the same by evaluation (the theorem is not needed to compute it): `event: hi\nretry: 5\nid: 7\ndata: a\u2028b\ndata: \ndata: c\n\n`
example : encodeEvent exEvent =
    [101, 118, 101, 110, 116, 58, 32, 104, 105, 10, 114, 101, 116, 114, 121, 58, 32, 53, 10, 105, 100, 58, 32, 55, 10,
     100, 97, 116, 97, 58, 32, 97, 8232, 98, 10, 100, 97, 116, 97, 58, 32, 10, 100, 97, 116, 97, 58, 32, 99, 10, 10] := by
  decide
example : parseStream (encodeEvent exEvent) = [⟨some [104, 105], some [55], some 5, [97, 8232, 98, 10, 10, 99]⟩] := by
  decide

/-- **C19.2** the dictionaries that say nothing (`{}`, `{"data": ""}`) are written as
a lone blank line, which no reading of the format turns into an event: nothing
is delivered, nothing is lost. -/
theorem block_vacuous (e : Event) (hv : e.vacuous = true) :
    encodeEvent e = [10] ∧ parseStream (encodeEvent e) = [] := by
  obtain ⟨hf, hd⟩ : e.fields = [] ∧ e.data.getD [] = [] := by simpa [Event.vacuous] using hv
  have henc : encodeEvent e = [10] := by rw [encodeEvent_eq, blockLines, hf, hd]; rfl
  exact ⟨henc, by rw [henc]; rfl⟩

-- `{"data": ""}` and `{}`
example : (⟨[], some []⟩ : Event).vacuous = true ∧ (⟨[], none⟩ : Event).vacuous = true := by decide

/-- **C19.3** keep-alive pings: the chunk each interface sends on a time-out (bytes
regenerated from both source files) is made of comment lines, and the client's
result is the same with or without it, whatever follows. -/
theorem ping_ignored (i : Iface) :
    KeepAlive (pingChunk i) ∧
    ∀ s, s.head? ≠ some 65279 → parseStream (pingChunk i ++ s) = parseStream s := by
  have hk := pingChunk_keepAlive i
  refine ⟨hk, fun s hs => ?_⟩
  rw [parseStream_noBOM (noBOM_append hk.noBOM hs), parseStream_noBOM hs, parseBody_keepAlive hk]

-- the chunks are not empty (`: ping\n\n` on both interfaces at present; any comment-only chunk passes),
-- they contain a non-blank comment line, and something follows them
example : pingChunk .wsgi ≠ [] ∧ pingChunk .asgi ≠ [] ∧
    (lfLines (pingChunk .wsgi)).1.any (· ≠ []) ∧ (lfLines (pingChunk .asgi)).1.any (· ≠ []) := by
  decide
example : parseStream (pingChunk .asgi ++ encodeEvent exEvent) = [expected exEvent] := by decide

/-- **C19.4** order: whatever `render_stream` yields — events and keep-alive chunks
in any interleaving, any number of them — the client obtains exactly the records of
the yielded events, in the order they were yielded, and nothing for the pings.
Partial in the same sense as
`block_roundtrip_partial`: `Item.WF` excludes ids with U+0000 and negative retries. -/
theorem stream_order_partial (i : Iface) (items : List Item) (h : ∀ it ∈ items, it.WF) :
    parseStream (wire i items) = items.filterMap delivered := by
  rw [parseStream_noBOM (wire_noBOM i items)]
  induction items with
  | nil => simp [wire, parseBody, wireLines, interp]
  | cons it items ih =>
    have ih := ih (fun x hx => h x (List.mem_cons_of_mem _ hx))
    simp only [wire, List.flatMap_cons] at ih ⊢
    rw [parseBody_item i it (h it List.mem_cons_self), ih]
    cases hd : delivered it <;> simp [hd]

/-- ping, event, `{}`, ping, ping, `{"data": " :x\n"}`, ping -/
def exItems : List Item :=
  [.ping, .ev exEvent, .ev ⟨[], none⟩, .ping, .ping, .ev ⟨[], some [32, 58, 120, 10]⟩, .ping]

example : ∀ it ∈ exItems, it.WF := by decide
example : exItems.filterMap delivered = [expected exEvent, ⟨none, none, none, [32, 58, 120]⟩] := by decide
example : parseStream (wire .wsgi exItems) = [expected exEvent, ⟨none, none, none, [32, 58, 120]⟩] := by
  rw [stream_order_partial .wsgi exItems (by decide)]; decide

/-- **C19.7** the hypothesis "no NUL in the id" of `Field.WF` is needed, and by the
format, not by the encoder: the block is written faithfully, the client ignores
the `id` field. -/
theorem roundtrip_needs_id_nul_free_witness :
    BreakFree [97, 0, 98] ∧
    parseStream (encodeEvent ⟨[.id [97, 0, 98]], some [120]⟩) ≠ [expected ⟨[.id [97, 0, 98]], some [120]⟩] ∧
    parseStream (encodeEvent ⟨[.id [97, 0, 98]], some [120]⟩) = [⟨none, none, none, [120]⟩] := by
  decide

/-- **C19.8** the hypothesis "retry is not negative" of `Field.WF` is needed: `-5`
is written as `retry: -5`, which is not a digit string, so the client ignores it. -/
theorem roundtrip_needs_retry_nonneg_witness :
    parseStream (encodeEvent ⟨[.retry (-5)], some [120]⟩) = [⟨none, none, none, [120]⟩] ∧
    (expected ⟨[.retry 5], some [120]⟩).retry = some 5 ∧
    parseStream (encodeEvent ⟨[.retry 5], some [120]⟩) = [⟨none, none, some 5, [120]⟩] := by
  decide

def contentTypeKey : List Nat := [99, 111, 110, 116, 101, 110, 116, 45, 116, 121, 112, 101]
def eventStreamType : List Nat := [116, 101, 120, 116, 47, 101, 118, 101, 110, 116, 45, 115, 116, 114, 101, 97, 109]

/-- **C19.9** both interfaces declare `text/event-stream; charset=<charset>` (tables
regenerated from both source files), for every charset name. -/
theorem headers_event_stream (i : Iface) (charset : List Nat) :
    (responseHeaders i charset).lookup contentTypeKey
      = some (eventStreamType ++ [59, 32, 99, 104, 97, 114, 115, 101, 116, 61] ++ charset) := by
  cases i <;> rfl

end Baize.SSE
