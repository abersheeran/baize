/-
C11 — the WebSocket wrapper only forwards protocol-legal event sequences.

`run s ops` drives the wrapper through the calls `ops` from state `s`; `init script` is a fresh `WebSocket`
over a server that will say `script`.  The theorems hold for every state, call sequence and server script
(any list of events, ill-typed ones included).  Assertions are assumed enabled (`python -O` strips the guards
the model interprets).
-/
import BaizeVerif.Lemmas.WebSocket

namespace Baize.WebSocket

/-- **C11.0** the 4-state DFA recognises exactly `ε | close | accept · send* · close?` -/
theorem legal_iff (w : List String) :
    Legal w ↔ w = [] ∨ w = [tClose] ∨
      ∃ n, w = tAccept :: List.replicate n tSend ∨ w = tAccept :: (List.replicate n tSend ++ [tClose]) := by
  unfold Legal
  cases w with
  | nil => exact ⟨fun _ => .inl rfl, fun _ => Dfa.noConfusion⟩
  | cons a w =>
    rw [Dfa.run_cons, Dfa.step]
    split
    · next h1 =>
      subst h1
      rw [Dfa.run_opened]
      simp [tAccept, tClose]
    · split
      · next h2 =>
        subst h2
        rw [Dfa.run_closed]
        simp [tAccept, tClose]
      · next h1 h2 => simp [h1, h2, Dfa.run_dead]

example : Legal [tAccept, tSend, tSend, tClose] := by decide +kernel
example : Legal [tClose] ∧ Legal [] ∧ Legal [tAccept] := by decide +kernel
example : ¬ Legal [tSend] ∧ ¬ Legal [tAccept, tAccept] ∧ ¬ Legal [tAccept, tClose, tSend] ∧
    ¬ Legal [tClose, tClose] ∧ ¬ Legal ["websocket.bogus"] := by decide +kernel

/-- a well-formed server script and a call sequence whose first and last calls are illegal (the second
`close()` is legal) -/
def exScript : List ServerEv := [.connect, .text 1, .bytes 2, .disconnect 1000]
def exOps : List Op :=
  [.sendText, .accept, .receiveText, .sendText, .receiveBytes, .sendBytes, .iterText 3, .close,
   .close, .sendText]

/-- **C11.1a** the invariant: from any state, the word any call sequence forwards takes the DFA from the
mirror of `application_state` before to that after. -/
theorem forwarded_tracks_app (s : State) (ops : List Op) :
    Dfa.run (dfaOf s.app) (fwdWord (run s ops).2) = dfaOf (run s ops).1.app := by
  induction ops generalizing s with
  | nil => rfl
  | cons op ops ih =>
    rw [run_cons]
    simp only [fwdWord, List.flatMap_cons]
    rw [Dfa.run_append, (step_ok s op).dfa]
    exact ih (step s op).1

/-- **C11.1** for every server script and call sequence on a fresh wrapper, the events forwarded to the
server form a word of `ε | close | accept·send*·close?`. -/
theorem forwarded_legal (script : List ServerEv) (ops : List Op) :
    Legal (fwdWord (run (init script) ops).2) :=
  fun hd => dfaOf_ne_dead _ ((forwarded_tracks_app (init script) ops).symm.trans hd)

example : fwdWord (run (init exScript) exOps).2 = [tAccept, tSend, tSend, tClose] := by decide +kernel
example : (run (init exScript) exOps).2.map Out.fin =
    [.assertionError, .ok, .ok, .ok, .ok, .ok, .stop, .ok, .ok, .runtimeError] := by decide +kernel
example : (run (init exScript) exOps).1 = ⟨.disconnected, .disconnected, exScript, 4⟩ := by decide +kernel

/-- the event type a call asks the wrapper to forward (`close()` is never illegal: see
`close_idempotent`) -/
def Op.sends : Op → Option String
  | .accept => some tAccept
  | .sendText => some tSend
  | .sendBytes => some tSend
  | .rawSend ty => some ty
  | _ => none

theorem step_of_sends {op : Op} {ty : String} (hop : op.sends = some ty) (s : State)
    (h : op ≠ .accept ∨ s.client ≠ .connecting) : ∃ k, step s op =
      ((wsSend s ty k).1, ⟨(wsSend s ty k).2.1, 0, [], (wsSend s ty k).2.2.fin⟩) := by
  cases op with
  | accept => cases hop; exact ⟨0, by rw [step_accept, if_neg (h.resolve_left (absurd rfl))]⟩
  | sendText => cases hop; exact ⟨1, by rw [← sendText_type]; rfl⟩
  | sendBytes => cases hop; exact ⟨2, by rw [← sendBytes_type]; rfl⟩
  | rawSend t => cases hop; exact ⟨0, rfl⟩
  | _ => cases hop

/-- **C11.2** an illegal call (its event would take the DFA, so by C11.1a the word forwarded so far, to `dead`)
raises, forwards nothing, returns nothing and leaves `application_state` unchanged.  The whole state is
unchanged and no server `receive()` is issued, except that `accept()` on a still-CONNECTING client has first
done its `receive()` (the code's order: `receive()`, then `send(accept)`): state and count are that
`receive()`'s. -/
theorem illegal_raises_without_forwarding (s : State) (op : Op) (ty : String)
    (hop : op.sends = some ty) (hill : (dfaOf s.app).step ty = .dead) :
    (step s op).2.fin.isError = true ∧ (step s op).2.fwd = [] ∧ (step s op).2.vals = [] ∧
    (step s op).1.app = s.app ∧
    ((op = .accept ∧ s.client = .connecting ∧ (step s op).1 = (wsRecv s).1 ∧
        (step s op).2.recvs = (wsRecv s).2.1 ∧ (step s op).2.recvs ≤ 1) ∨
     ((op ≠ .accept ∨ s.client ≠ .connecting) ∧ (step s op).1 = s ∧ (step s op).2.recvs = 0)) := by
  by_cases h : op = .accept ∧ s.client = .connecting
  · obtain ⟨rfl, hcl⟩ := h
    cases hop
    have hr := recvOk_receive s
    have hn := wsRecv_recvs_le s
    rw [step_accept, if_pos hcl]
    generalize wsRecv s = w at hr hn ⊢
    obtain ⟨s1, n, r⟩ := w
    cases r with
    | msg e =>
      obtain ⟨err, he, hw⟩ := wsSend_illegal (s := s1) (ty := tAccept) (by rw [hr.app]; exact hill) 0
      dsimp only
      rw [hw]
      exact ⟨he, rfl, rfl, hr.app, .inl ⟨rfl, hcl, rfl, rfl, hn⟩⟩
    | _ => exact ⟨rfl, rfl, rfl, hr.app, .inl ⟨rfl, hcl, rfl, rfl, hn⟩⟩
  · have hno := Decidable.not_and_iff_not_or_not.mp h
    obtain ⟨k, hk⟩ := step_of_sends hop s hno
    obtain ⟨err, he, hw⟩ := wsSend_illegal hill k
    rw [hk, hw]
    exact ⟨he, rfl, rfl, rfl, .inr ⟨hno, rfl, rfl⟩⟩

example : Op.sends .sendText = some tSend ∧ (dfaOf (init exScript).app).step tSend = .dead ∧
    step (init exScript) .sendText = (init exScript, ⟨[], 0, [], .assertionError⟩) := by decide +kernel
/-- `accept` after `close`: the connect event is consumed, then RuntimeError -/
example : (dfaOf WsState.disconnected).step tAccept = .dead ∧
    step ⟨.connecting, .disconnected, [.connect], 0⟩ .accept =
      (⟨.connected, .disconnected, [.connect], 1⟩, ⟨[], 1, [], .runtimeError⟩) := by decide +kernel
example : (dfaOf WsState.connected).step "http.response.start" = .dead ∧
    (step ⟨.connected, .connected, [], 0⟩ (.rawSend "http.response.start")).2 =
      ⟨[], 0, [], .assertionError⟩ := by decide +kernel

/-- **C11.2b** (the converse, so that C11.2 is not met by a wrapper refusing everything) a legal `send_text` /
`send_bytes` / raw `send` returns normally and forwards exactly its event, with `application_state` already
updated when the server's send is called. -/
theorem legal_call_forwards (s : State) (op : Op) (ty : String) (hop : op.sends = some ty)
    (hacc : op ≠ .accept) (hleg : (dfaOf s.app).step ty ≠ .dead) :
    (step s op).2.fin = .ok ∧ (step s op).2.recvs = 0 ∧
    (∃ k, (step s op).2.fwd = [⟨ty, k, (step s op).1.app⟩]) ∧
    dfaOf (step s op).1.app = (dfaOf s.app).step ty := by
  obtain ⟨k, h⟩ := step_of_sends hop s (.inl hacc)
  obtain ⟨a', hd, -, hw⟩ := wsSend_legal hleg k
  rw [h, hw]
  exact ⟨rfl, rfl, ⟨k, rfl⟩, hd⟩

example : (dfaOf WsState.connected).step tSend ≠ .dead ∧
    step ⟨.connected, .connected, [], 0⟩ .sendBytes =
      (⟨.connected, .connected, [], 0⟩, ⟨[⟨tSend, 2, .connected⟩], 0, [], .ok⟩) := by decide +kernel
/-- the server's send sees the NEW state (state change before forwarding) -/
example : (step ⟨.connecting, .connecting, [], 0⟩ (.rawSend tClose)).2.fwd =
    [⟨tClose, 0, .disconnected⟩] := by decide +kernel

/-- **C11.2c** any call that raises, from any state, has forwarded nothing and not moved `application_state`. -/
theorem error_forwards_nothing (s : State) (op : Op) (h : (step s op).2.fin.isError = true) :
    (step s op).2.fwd = [] ∧ (step s op).1.app = s.app :=
  (step_ok s op).err h

example : (step ⟨.connected, .connected, [.bytes 7], 0⟩ .receiveText).2.fin.isError = true := by decide +kernel

/-- **C11.3a** a call that delivers a disconnect leaves `client_state` DISCONNECTED. -/
theorem disconnect_delivered_marks_client (s : State) (op : Op)
    (h : (step s op).2.deliversDisconnect) : (step s op).1.client = .disconnected :=
  (step_ok s op).delivered h

example : (step ⟨.connected, .connected, [.disconnect 1001], 0⟩ .receiveText).2.deliversDisconnect :=
  Or.inl ⟨1001, by decide +kernel⟩
example : (step ⟨.connected, .connected, [.text 1, .disconnect 1001], 0⟩ (.iterText 5)).2.deliversDisconnect :=
  Or.inr (Or.inl (by decide +kernel))
example : (step ⟨.connected, .connecting, [.disconnect 1001], 0⟩ .receive).2.deliversDisconnect :=
  Or.inr (Or.inr ⟨.disconnect 1001, by decide +kernel, by decide +kernel⟩)

/-- **C11.3** once a call has delivered a disconnect (from any state, so at any point of any run), no later
call sequence issues a server `receive()` or returns a value. -/
theorem no_receive_after_disconnect (s : State) (op : Op) (ops : List Op)
    (h : (step s op).2.deliversDisconnect) :
    totalRecvs (run (step s op).1 ops).2 = 0 ∧ allVals (run (step s op).1 ops).2 = [] :=
  quiet_after_disconnect _ ops (disconnect_delivered_marks_client s op h)

/-- after the disconnect the remaining script (a frame!) is never asked for -/
example : (step ⟨.connected, .connected, [.disconnect 1001, .text 5], 0⟩ .receiveText).1.client = .disconnected ∧
    totalRecvs (run (step ⟨.connected, .connected, [.disconnect 1001, .text 5], 0⟩ .receiveText).1
      [.receive, .receiveText, .iterBytes 2, .accept, .close]).2 = 0 := by decide +kernel

/-- **C11.4a** the server script is never rewritten and the cursor advances by exactly the number of
`receive()` calls issued, unless the call ran past the end of the script (then by no more). -/
theorem receives_consume_script (s : State) (op : Op) :
    (step s op).1.script = s.script ∧ s.pos ≤ (step s op).1.pos ∧
    (step s op).1.pos ≤ s.pos + (step s op).2.recvs ∧
    ((step s op).2.fin ≠ .scriptEnd → (step s op).1.pos = s.pos + (step s op).2.recvs) := by
  have h := step_ok s op
  have := h.vals_len
  exact ⟨h.script, by omega, h.pos_hi, h.pos_eq⟩

example : (step ⟨.connected, .connected, [.text 1], 1⟩ .receiveText).2 = ⟨[], 1, [], .scriptEnd⟩ ∧
    (step ⟨.connected, .connected, [.text 1, .text 2], 0⟩ (.iterText 2)).1.pos = 2 := by decide +kernel

/-- **C11.4** frames are returned in order, exactly once.  Per call: the returned values are the script entries
from the cursor on; at most one consumed event is not returned, the last, and then the call raised or is
`accept()` swallowing the connect event.  Per run: the returned values, concatenated, are a subsequence of the
consumed part of the script (no position twice, order kept). -/
theorem frames_in_order_once (s : State) :
    (∀ op, (step s op).2.vals <+: s.script.drop s.pos ∧
      s.pos + (step s op).2.vals.length ≤ (step s op).1.pos ∧
      (step s op).1.pos ≤ s.pos + (step s op).2.vals.length + 1 ∧
      ((step s op).1.pos = s.pos + (step s op).2.vals.length + 1 →
        (step s op).2.fin ≠ .ok ∨ op = .accept)) ∧
    (∀ ops, (allVals (run s ops).2).Sublist
      ((s.script.drop s.pos).take ((run s ops).1.pos - s.pos))) := by
  constructor
  · intro op
    have h := step_ok s op
    exact ⟨h.vals_prefix, h.vals_len, h.lost, h.lost_fin⟩
  · intro ops
    induction ops generalizing s with
    | nil => simp [run, allVals]
    | cons op ops ih =>
      rw [run_cons]
      have h := step_ok s op
      have hf := run_frame (step s op).1 ops
      have h1 := h.vals_len
      dsimp only
      rw [take_split s.script s.pos (step s op).1.pos _ (by omega) hf.2.1]
      simp only [allVals, List.flatMap_cons]
      apply List.Sublist.append
      · apply List.IsPrefix.sublist
        rw [List.prefix_take_iff]
        exact ⟨h.vals_prefix, by omega⟩
      · have := ih (step s op).1
        rw [h.script] at this
        exact this

/-- the third consumed event, a bytes frame, is lost with KeyError -/
example : step ⟨.connected, .connected, [.text 1, .text 2, .bytes 3, .text 4], 0⟩ (.iterText 5) =
    (⟨.connected, .connected, [.text 1, .text 2, .bytes 3, .text 4], 3⟩,
      ⟨[], 3, [.text 1, .text 2], .keyError⟩) := by decide +kernel
example : allVals (run (init exScript) exOps).2 = [.text 1, .bytes 2] := by decide +kernel

/-- **C11.5** `close()` can be called any number of times: it never raises, leaves the application
DISCONNECTED, forwards one close unless the application already was, and a second `close()` changes nothing,
forwards nothing and asks the server nothing. -/
theorem close_idempotent (s : State) :
    (step s .close).2.fin = .ok ∧ (step s .close).1.app = .disconnected ∧
    (step s .close).2.recvs = 0 ∧
    ((step s .close).2.fwd.map Fwd.ty = if s.app = .disconnected then [] else [tClose]) ∧
    step (step s .close).1 .close = ((step s .close).1, ⟨[], 0, [], .ok⟩) := by
  have h2 : ∀ t : State, t.app = .disconnected → step t .close = (t, ⟨[], 0, [], .ok⟩) := by
    intro t ht; rw [step_close, if_pos ht]
  by_cases h : s.app = .disconnected
  · rw [h2 s h, if_pos h]
    exact ⟨rfl, h, rfl, rfl, h2 s h⟩
  · have hc := dfaOf_step_close h
    obtain ⟨a', hd, -, hw⟩ := wsSend_legal (s := s) (ty := tClose) (by rw [hc]; exact Dfa.noConfusion) 0
    cases dfaOf_closed (hd.trans hc)
    rw [step_close, if_neg h, if_neg h, hw]
    exact ⟨rfl, rfl, rfl, rfl, h2 _ rfl⟩

example : (step ⟨.connected, .connected, [], 0⟩ .close).2.fwd = [⟨tClose, 0, .disconnected⟩] ∧
    (step ⟨.connected, .connecting, [], 0⟩ .close).2.fwd = [⟨tClose, 0, .disconnected⟩] ∧
    (step ⟨.connected, .disconnected, [], 0⟩ .close).2.fwd = [] := by decide +kernel

/-- **C11.6** both reported states only move forward (CONNECTING < CONNECTED < DISCONNECTED) along every run. -/
theorem states_monotone (s : State) (ops1 ops2 : List Op) :
    (run s ops1).1.client.rank ≤ (run s (ops1 ++ ops2)).1.client.rank ∧
    (run s ops1).1.app.rank ≤ (run s (ops1 ++ ops2)).1.app.rank := by
  rw [run_append]
  have := run_frame (run s ops1).1 ops2
  exact ⟨this.2.2.1, this.2.2.2⟩

example : (trace (init exScript) exOps).map (fun p => (p.2.client.rank, p.2.app.rank)) =
    [(0, 0), (1, 1), (1, 1), (1, 1), (1, 1), (1, 1), (2, 1), (2, 2), (2, 2), (2, 2)] := by decide +kernel

/-- **Observation** (outside the statement, modelled): a typed receive on a frame of the other kind raises
`KeyError` AFTER consuming the frame, which is lost to the application. -/
theorem wrong_kind_keyerror (sc : List ServerEv) (p v : Nat) :
    (sc[p]? = some (.bytes v) →
      step ⟨.connected, .connected, sc, p⟩ .receiveText =
        (⟨.connected, .connected, sc, p + 1⟩, ⟨[], 1, [], .keyError⟩)) ∧
    (sc[p]? = some (.text v) →
      step ⟨.connected, .connected, sc, p⟩ .receiveBytes =
        (⟨.connected, .connected, sc, p + 1⟩, ⟨[], 1, [], .keyError⟩)) := by
  constructor <;> intro h <;>
    simp [step, typedRecv, typedGuard, Gen.WebSocket.recvTextGuard, Gen.WebSocket.recvBytesGuard,
      WsState.rank, wsRecv_connected, h, ServerEv.type, tyReceive, tyDisconnect, pick,
      Gen.WebSocket.disconnectType]

example : ([ServerEv.bytes 7])[0]? = some (.bytes 7) ∧ ([ServerEv.text 7])[0]? = some (.text 7) := by decide +kernel
/-- the other documented KeyError: raw accept before the connect event was consumed, then a typed receive
gets the connect event -/
example : (run (init exScript) [.rawSend tAccept, .receiveText]).2.map Out.fin = [.ok, .keyError] ∧
    (run (init exScript) [.rawSend tAccept, .receiveText]).1 = ⟨.connected, .connected, exScript, 1⟩ := by
  decide +kernel

/-- **C11.7** the denial response: on a websocket scope without the denial extension (or without a response)
it forwards exactly `close`, a legal word; with the extension it forwards only images of the mapping (never
accept / send / close); `request_response` on a websocket scope (`requestResponseOnWs`: that denial around a
plain response, no view in it) without the extension forwards exactly `close`. -/
theorem denial_legal (hasResp hasExt : Bool) (evs : List String) :
    ((hasResp = false ∨ hasExt = false) →
      denial "websocket" hasResp hasExt evs = ([tClose], .done) ∧ Legal [tClose]) ∧
    (∀ t ∈ (denial "websocket" true true evs).1, t ≠ tAccept ∧ t ≠ tSend ∧ t ≠ tClose) ∧
    requestResponseOnWs false = ([tClose], .done) := by
  refine ⟨?_, ?_, by decide +kernel⟩
  · intro h
    refine ⟨?_, by decide +kernel⟩
    rcases h with h | h <;> subst h <;> simp [denial, Gen.WebSocket.denialScopeType,
      Gen.WebSocket.denialFallbackSends, tClose]
  · have himg : ∀ t ∈ Gen.WebSocket.denialMapping.map Prod.snd,
        t ≠ tAccept ∧ t ≠ tSend ∧ t ≠ tClose := by decide +kernel
    have hden : denial "websocket" true true evs = denyMap evs := by
      simp [denial, Gen.WebSocket.denialScopeType]
    rw [hden]
    exact fun t ht => himg t (denyMap_subset evs t ht)

example : denial "websocket" true true plainResponseEvents =
    (["websocket.http.response.start", "websocket.http.response.body"], .done) := by decide +kernel
example : denial "websocket" true true ["http.response.start", "websocket.accept"] =
    (["websocket.http.response.start"], .valueError) := by decide +kernel
example : denial "http" true true [] = ([], .assertionError) ∧ sessionDispatch "http" = 0 ∧
    sessionDispatch "websocket" = 1 ∧ sessionDispatch "lifespan" = 2 := by decide +kernel

/-- **C11.8** tie to the source, the shapes the model hard-codes: the enum order and the initial states (so
`WsState.ofCode` never takes its default), the if/elif chain over the states and its `else`, `_receive()` as
the first statement of a `receive()` branch (`runRecv` acts on codes 0 and 1 only), the statement orders of
`accept()` and the typed receives, the keys, what the iterators call and catch, the statuses.  The
accepted-type sets, the state changes and the order of assert, state change and forward in `receive()` /
`send()` the model interprets from `Gen.WebSocket`; the closed forms `wsSend_connecting` … in
`Lemmas/WebSocket.lean` are re-proved from it on every run. -/
theorem source_pinned :
    Gen.WebSocket.stateNames = ["CONNECTING", "CONNECTED", "DISCONNECTED"] ∧
    Gen.WebSocket.initClient = 0 ∧ Gen.WebSocket.initApp = 0 ∧
    Gen.WebSocket.initScopeType = "websocket" ∧
    Gen.WebSocket.recvBranches = [0, 1] ∧ Gen.WebSocket.sendBranches = [0, 1] ∧
    Gen.WebSocket.recvElse = "RuntimeError" ∧ Gen.WebSocket.sendElse = "RuntimeError" ∧
    Gen.WebSocket.recvConnectingOrder.head? = some 3 ∧
    Gen.WebSocket.recvConnectedOrder.head? = some 3 ∧
    Gen.WebSocket.acceptRecvWhen = [0] ∧ Gen.WebSocket.acceptOrder = [3, 2] ∧
    Gen.WebSocket.recvTextOrder = [0, 3, 5, 4] ∧ Gen.WebSocket.recvBytesOrder = [0, 3, 5, 4] ∧
    Gen.WebSocket.recvTextKey = "text" ∧ Gen.WebSocket.recvBytesKey = "bytes" ∧
    Gen.WebSocket.disconnectRaises = "WebSocketDisconnect" ∧
    Gen.WebSocket.iterTextCatches = ["WebSocketDisconnect"] ∧
    Gen.WebSocket.iterBytesCatches = ["WebSocketDisconnect"] ∧
    Gen.WebSocket.iterTextCalls = ["receive_text"] ∧
    Gen.WebSocket.iterBytesCalls = ["receive_bytes"] ∧
    Gen.WebSocket.sendTextKey = "text" ∧ Gen.WebSocket.sendBytesKey = "bytes" ∧
    Gen.WebSocket.denialExtension = "websocket.http.response" ∧
    Gen.WebSocket.rrDenyStatus = 404 ∧ Gen.WebSocket.sessionHttpStatus = 404 := by
  decide +kernel

end Baize.WebSocket
