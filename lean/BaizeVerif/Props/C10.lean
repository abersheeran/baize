/-
C10 — the request body is read once, completely, and consistently cached.

WSGI theorems quantify over every parser pair `P` (json.loads / parse_qsl as arbitrary total functions of the body),
every content type, every list of input pieces (every chunking, empty pieces included), every chunk size and every
access sequence.  ASGI theorems additionally over every message script, every set of user tasks and every schedule
(`List TId`).
-/
import BaizeVerif.Lemmas.BodyWsgi
import BaizeVerif.Lemmas.BodyAsgi

namespace Baize.Body

/-- The facts `tools/gen/c10.py` reads off /repo (`Gen/Body.lean`) are those the model was written for.  The model
takes only the default chunk size, the `wsgiCached*` flags and the message texts from `Gen`; the rest (the flag set
before the first `read()` / `receive()`, the `done()` tests, what the replay branches yield, the receive loop's
message types and exceptions, `cached_property` storing an awaitable as a future) is written into `wStep`/`step`, so
a change of the source fails here. -/
theorem source_pinned :
    Gen.Body.wsgiConsumedClass = "RuntimeError" ∧ Gen.Body.wsgiConsumedMsg = "Stream consumed" ∧
    Gen.Body.asgiConsumedClass = "RuntimeError" ∧ Gen.Body.asgiConsumedMsg = "Stream consumed" ∧
    0 < Gen.Body.wsgiChunkDefault ∧
    [Gen.Body.wsgiCachedBody, Gen.Body.wsgiCachedJson, Gen.Body.wsgiCachedForm,
     Gen.Body.wsgiCachedStream, Gen.Body.wsgiCachedClose] = [true, true, true, false, false] ∧
    [Gen.Body.asgiCachedBody, Gen.Body.asgiCachedJson, Gen.Body.asgiCachedForm,
     Gen.Body.asgiCachedStream, Gen.Body.asgiCachedClose] = [true, true, true, false, false] ∧
    Gen.Body.wsgiFlagBeforeRead = true ∧ Gen.Body.asgiFlagBeforeReceive = true ∧
    Gen.Body.asgiReplayTestsDone = true ∧ Gen.Body.asgiCloseTestsDone = true ∧
    Gen.Body.wsgiReplayYields = ["expr"] ∧ Gen.Body.asgiReplayYields = ["expr", "empty"] ∧
    Gen.Body.asgiTailYields = ["empty"] ∧
    Gen.Body.asgiMessageTypes = ["http.request", "http.disconnect"] ∧
    Gen.Body.asgiStreamRaises = ["RuntimeError", "ClientDisconnect"] ∧
    Gen.Body.cachedWrapsAwaitable = true ∧ Gen.Body.cachedStoresResult = true := by
  decide

/-! ## WSGI

`wExec P (wInit ct chunks) ops` is the state after the accesses `ops` to a fresh `Request` whose `wsgi.input` will
hand out `chunks`; `wStep P s a` is one more access (the state after it, its outcome); `wRun` also lists the outcomes,
each with the number of `read()` calls so far. -/

/-- **Body = concatenation of all chunks, for every chunking.**  After any accesses, with any chunk sizes, a `body`
access that succeeds returns the concatenation of all input pieces, and a `stream` iteration that runs to its end
yielded exactly that. -/
theorem wsgi_body_is_concat (P : Parsers) (ct : CT) (chunks : List Bytes) (ops : List Op) :
    ∀ o ∈ (wRun P (wInit ct chunks) ops).2,
      (∀ b, o.1 = .body (.ok b) → b = chunks.flatten) ∧
      (∀ items, o.1 = .stream items .ended → items.flatten = chunks.flatten) := by
  suffices H : ∀ s, WInv P chunks s → ∀ o ∈ (wRun P s ops).2,
      (∀ b, o.1 = .body (.ok b) → b = chunks.flatten) ∧
      (∀ items, o.1 = .stream items .ended → items.flatten = chunks.flatten) from
    H _ (wInit_inv P ct chunks)
  induction ops with
  | nil => intro s _ o ho; simp [wRun] at ho
  | cons op ops ih =>
    intro s hs o ho
    simp only [wRun, List.mem_cons] at ho
    rcases ho with rfl | ho
    · cases op with
      | body =>
        exact ⟨fun b hb => (bodySpec_ok ((wBody_spec hs).out ▸ Out.body.inj hb)).2,
          fun items hi => by simp [wStep] at hi⟩
      | json | form | close =>
        exact ⟨fun b hb => by simp [wStep] at hb, fun items hi => by simp [wStep] at hi⟩
      | stream k n =>
        have := (wStream_spec hs k n).out
        refine ⟨fun b hb => ?_, fun items hi => ?_⟩
        · rw [show (wStream s k n).2 = _ from hb] at this
          exact this.elim
        · rw [show (wStream s k n).2 = _ from hi] at this
          exact this.2.1 rfl
    · exact ih _ (wStep_inv hs op).1 o ho

example : (wRun stdParsers (wInit .json [[49], [], [50, 51]]) [.stream 0 0, .body, .json, .stream 9 1]).2
    = [(.stream [] .abandoned, 0), (.body (.ok [49, 50, 51]), 3), (.json (.ok [49, 50, 51]), 3),
       (.stream [[49, 50, 51]] .ended, 3)] := by decide

/-- **Each byte is handed out once, in order.**  What the `read()` calls returned so far, followed by what `wsgi.input`
still holds, is what the server supplied: nothing is read twice, nothing skipped. -/
theorem wsgi_each_byte_once (P : Parsers) (ct : CT) (chunks : List Bytes) (ops : List Op) :
    (wExec P (wInit ct chunks) ops).got.flatten ++ (wExec P (wInit ct chunks) ops).input.flatten
      = chunks.flatten :=
  (wExec_inv (wInit_inv P ct chunks) ops).1.conserve

example : (wExec stdParsers (wInit .json [[49, 50], [51]]) [.stream 1 1, .body]).got = [[49]]
    ∧ (wExec stdParsers (wInit .json [[49, 50], [51]]) [.stream 1 1, .body]).input = [[50], [51]] := by
  decide

/-- **All reading happens inside the one drain guarded by `_stream_consumed`.**  While the flag is clear nothing has
been read; once it is set no access reads again or touches the input, and the flag stays set. -/
theorem wsgi_reads_only_in_first_drain (P : Parsers) (ct : CT) (chunks : List Bytes)
    (ops : List Op) (op : Op) :
    ((wExec P (wInit ct chunks) ops).consumed = false →
      (wExec P (wInit ct chunks) ops).reads = 0 ∧ (wExec P (wInit ct chunks) ops).input = chunks) ∧
    ((wExec P (wInit ct chunks) ops).consumed = true →
      (wStep P (wExec P (wInit ct chunks) ops) op).1.reads = (wExec P (wInit ct chunks) ops).reads ∧
      (wStep P (wExec P (wInit ct chunks) ops) op).1.input = (wExec P (wInit ct chunks) ops).input ∧
      (wStep P (wExec P (wInit ct chunks) ops) op).1.consumed = true) := by
  have hs := (wExec_inv (wInit_inv P ct chunks) ops).1
  refine ⟨fun hc => ⟨(hs.fresh hc).2.2.1, (hs.fresh hc).1⟩, fun hc => ?_⟩
  obtain ⟨k1, k2, k3, _, _⟩ := (wStep_inv hs op).2.keep hc
  exact ⟨k2, k3, k1⟩

example : (wExec stdParsers (wInit .json [[49, 50], [51]]) [.stream 1 0]).consumed = true
    ∧ (wExec stdParsers (wInit .json [[49, 50], [51]]) [.stream 1 0]).reads = 1
    ∧ (wExec stdParsers (wInit .json [[49, 50], [51]]) [.stream 1 0, .body, .stream 5 0, .json]).reads = 1 := by
  decide

/-- **Repeated accesses return the identical outcome without reading.**  Access `a ∈ {body, json, form}` after any
history `ops1`, let anything happen (`ops2`), access `a` again: the same outcome (value or exception), no `read()`,
the input untouched. -/
theorem wsgi_accessors_cached (P : Parsers) (ct : CT) (chunks : List Bytes)
    (ops1 ops2 : List Op) (a : Op) (ha : a.isAccessor = true) :
    (wStep P (wExec P (wStep P (wExec P (wInit ct chunks) ops1) a).1 ops2) a).2
        = (wStep P (wExec P (wInit ct chunks) ops1) a).2 ∧
    (wStep P (wExec P (wStep P (wExec P (wInit ct chunks) ops1) a).1 ops2) a).1.reads
        = (wExec P (wStep P (wExec P (wInit ct chunks) ops1) a).1 ops2).reads ∧
    (wStep P (wExec P (wStep P (wExec P (wInit ct chunks) ops1) a).1 ops2) a).1.input
        = (wExec P (wStep P (wExec P (wInit ct chunks) ops1) a).1 ops2).input := by
  have h1 := (wExec_inv (wInit_inv P ct chunks) ops1).1
  obtain ⟨h3, f3⟩ := wExec_inv (wStep_inv h1 a).1 ops2
  exact wStep_again h1 h3 a ha f3

example : (wStep stdParsers (wExec stdParsers (wInit .json [[49], [120]]) [.stream 0 0]) .json).2
      = .json (.err (.http 400))
    ∧ (wStep stdParsers (wExec stdParsers (wInit .json [[49], [120]]) [.json, .body, .stream 3 0]) .json)
      = (wExec stdParsers (wInit .json [[49], [120]]) [.json, .body, .stream 3 0], .json (.err (.http 400))) := by
  decide

/-- **Streaming after the body was read replays it.**  Once a `body` access has returned `b` (the concatenation of all
chunks), any later `stream()` yields exactly `[b]` without touching the state (no read), and does not raise. -/
theorem wsgi_stream_after_body_replays (P : Parsers) (ct : CT) (chunks : List Bytes)
    (ops1 ops2 : List Op) (b : Bytes) (k n : Nat) (hk : 1 ≤ k)
    (hb : (wStep P (wExec P (wInit ct chunks) ops1) .body).2 = .body (.ok b)) :
    b = chunks.flatten ∧
    ∃ fin, wStep P (wExec P (wStep P (wExec P (wInit ct chunks) ops1) .body).1 ops2) (.stream k n)
        = (wExec P (wStep P (wExec P (wInit ct chunks) ops1) .body).1 ops2, .stream [b] fin)
      ∧ fin ≠ .raised .consumed := by
  have h1 := (wExec_inv (wInit_inv P ct chunks) ops1).1
  generalize wExec P (wInit ct chunks) ops1 = s1 at *
  have wb := wBody_spec h1
  simp only [wStep]
  obtain ⟨hl, rfl⟩ := bodySpec_ok (wb.out ▸ Out.body.inj hb)
  obtain ⟨h3, f3⟩ := wExec_inv wb.inv ops2
  have hcb3 := (f3.keep wb.consumed).2.2.2.2.trans (wb.cached hl)
  generalize wExec P (wBody s1).1 ops2 = s3 at *
  obtain ⟨e1, e2⟩ := (wStream_spec h3 k n).replay _ hcb3
  obtain ⟨fin, f1, f2⟩ := e2 hk
  refine ⟨rfl, fin, ?_, f2⟩
  rw [Prod.ext_iff]
  exact ⟨e1, f1⟩

example : (wStep stdParsers (wExec stdParsers (wInit .urlenc [[97, 61], [49]]) [.form, .body, .close]) (.stream 2 1)).2
    = .stream [[97, 61, 49]] .ended := by decide

/-- **Reading the body after the stream was consumed raises the documented error.**  If `stream()` is iterated at least
once while the body is not cached then, whatever else happens before or after, every later `body` access raises
`RuntimeError("Stream consumed")` and changes nothing; so do `json` / `form` when the content type makes them read
the body. -/
theorem wsgi_body_after_stream_raises_consumed (P : Parsers) (ct : CT) (chunks : List Bytes)
    (ops1 ops2 : List Op) (k n : Nat) (hk : 1 ≤ k)
    (hnb : (wExec P (wInit ct chunks) ops1).cBody = none) :
    wStep P (wExec P (wInit ct chunks) (ops1 ++ [.stream k n] ++ ops2)) .body
      = (wExec P (wInit ct chunks) (ops1 ++ [.stream k n] ++ ops2), .body (.err .consumed)) ∧
    (ct = .json → (wStep P (wExec P (wInit ct chunks) (ops1 ++ [.stream k n] ++ ops2)) .json).2
      = .json (.err .consumed)) ∧
    (ct = .urlenc → (wStep P (wExec P (wInit ct chunks) (ops1 ++ [.stream k n] ++ ops2)) .form).2
      = .form (.err .consumed)) := by
  obtain ⟨h1, f1⟩ := wExec_inv (wInit_inv P ct chunks) ops1
  rw [wExec_append, wExec_append, wExec_cons, wExec_nil]
  generalize wExec P (wInit ct chunks) ops1 = s1 at *
  have w := wStream_spec h1 k n
  have e : (wStep P s1 (.stream k n)).1 = (wStream s1 k n).1 := rfl
  rw [e]
  obtain ⟨h3, f3⟩ := wExec_inv w.inv ops2
  have k1 := (f3.keep (w.consumed hk)).1
  have hl3 := (f3.lost_eq (w.consumed hk)).trans (w.loses hk hnb)
  have hct : (wExec P (wStream s1 k n).1 ops2).ct = ct := by rw [f3.ct, w.frame.ct, f1.ct]; rfl
  generalize wExec P (wStream s1 k n).1 ops2 = s3 at *
  refine ⟨?_, fun hj => ?_, fun hu => ?_⟩
  · rw [Prod.ext_iff]
    exact ⟨(wBody_spec h3).idle k1, by simp only [wStep, (wBody_spec h3).out, bodySpec, hl3, if_true]⟩
  · simp only [wStep, (wJson_spec h3).out, jsonSpec, hct, hj, hl3, if_true]
  · simp only [wStep, (wForm_spec h3).out, formSpec, hct, hu, hl3, if_true]

example : (wRun stdParsers (wInit .json [[49, 50], [51]]) [.stream 1 0, .close, .body, .json, .stream 1 0]).2
    = [(.stream [[49, 50]] .abandoned, 1), (.closed (.ok ()), 1), (.body (.err .consumed), 1),
       (.json (.err .consumed), 1), (.stream [] (.raised .consumed), 1)] := by decide

/-! ## ASGI

`runSched P (aInit ct script progs) sched` is the state after the scheduler ran the task steps `sched` (any list over
the body/json/form futures' tasks and the user tasks `progs`), starting from a fresh `Request` whose `receive()` will
deliver `script`.  Every theorem below holds for every such `sched`: nothing is assumed about fairness, order or
length.

The non-vacuity examples run three messages (one empty), three user tasks (`body; json` / `json; stream` /
`stream; body`) and two complete schedules: in the first the body future wins the receive channel, in the second
user task 2's `stream()` does. -/

def demoScript : List Msg := [.request [49, 50] true, .request [] true, .request [51] false]
def demoCut : List Msg := [.request [49, 50] true, .disconnect]
def demoProgs : List (List Op) := [[.body, .json], [.json, .stream 3 0], [.stream 3 0, .body]]
def demoSched : List TId :=
  [.user 0, .user 1, .fbody, .user 2, .fjson, .fbody, .fbody, .fbody, .user 0, .fjson, .user 1,
   .user 0, .user 2]
def demoSched2 : List TId :=
  [.user 2, .user 0, .user 1, .fbody, .fjson, .user 2, .user 0, .fjson, .user 2, .user 2, .user 1,
   .user 0, .user 2]
def demoRun := runSched stdParsers (aInit .json demoScript demoProgs) demoSched
def demoRun2 := runSched stdParsers (aInit .json demoScript demoProgs) demoSched2
def demoRunCut := runSched stdParsers (aInit .json demoCut demoProgs) demoSched

/-- **Each server message is consumed at most once, at a single monotone read position.**  `pos` never exceeds the
script, every hand-out is logged exactly once, at most one `receive()` call is outstanding at any time, and running
the pool further never moves the position backwards.  That the `k`-th `receive()` to return hands out `script[k]` is
not part of the statement: it is how `stepBody`/`uRecv` are written (they read `script[pos]` and advance `pos` by
one), and `pos` is changed nowhere else. -/
theorem asgi_each_message_once (P : Parsers) (ct : CT) (script : List Msg) (progs : List (List Op))
    (sched more : List TId) :
    (runSched P (aInit ct script progs) sched).sh.script = script ∧
    (runSched P (aInit ct script progs) sched).sh.pos ≤ script.length ∧
    (runSched P (aInit ct script progs) sched).sh.log.length = (runSched P (aInit ct script progs) sched).sh.pos ∧
    (runSched P (aInit ct script progs) sched).sh.pos ≤ (runSched P (aInit ct script progs) sched).sh.calls ∧
    (runSched P (aInit ct script progs) sched).sh.calls ≤ (runSched P (aInit ct script progs) sched).sh.pos + 1 ∧
    (runSched P (aInit ct script progs) sched).sh.pos ≤ (runSched P (aInit ct script progs) (sched ++ more)).sh.pos := by
  obtain ⟨h, hscript, _⟩ := runSched_aInit_inv P ct script progs sched
  refine ⟨hscript, ?_, h.sh.log_len, h.sh.calls_bd.1, h.sh.calls_bd.2, ?_⟩
  · have := h.sh.pos_le
    rwa [hscript] at this
  · rw [runSched_append]
    exact (runSched_inv h more).2.pos_mono

example : demoRun.sh.pos = 3 ∧ demoRun.sh.calls = 3 ∧ demoRun.sh.log = [.fbody, .fbody, .fbody]
    ∧ (runSched stdParsers (aInit .json demoScript demoProgs) (demoSched.take 6)).sh.pos = 1
    ∧ (runSched stdParsers (aInit .json demoScript demoProgs) (demoSched.take 6)).sh.calls = 2 := by decide

/-- **The drain is started exactly once.**  Every message handed out went to one and the same task, the `owner` (the
task that set `_stream_consumed`); any task suspended in `receive()`, the body future's task or a user task iterating
`stream()`, *is* that owner, so two tasks never wait on the receive channel together; the owner never changes however
the pool runs on. -/
theorem asgi_drain_started_once (P : Parsers) (ct : CT) (script : List Msg) (progs : List (List Op))
    (sched more : List TId) :
    (∀ t ∈ (runSched P (aInit ct script progs) sched).sh.log,
        (runSched P (aInit ct script progs) sched).sh.owner = some t) ∧
    (∀ acc, (runSched P (aInit ct script progs) sched).sh.fb = .recv acc →
        (runSched P (aInit ct script progs) sched).sh.owner = some .fbody) ∧
    (∀ i k items, ((runSched P (aInit ct script progs) sched).users i).pc = .recv k items →
        (runSched P (aInit ct script progs) sched).sh.owner = some (.user i)) ∧
    (∀ t, (runSched P (aInit ct script progs) sched).sh.owner = some t →
        (runSched P (aInit ct script progs) (sched ++ more)).sh.owner = some t) ∧
    ((runSched P (aInit ct script progs) sched).sh.consumed = false →
        (runSched P (aInit ct script progs) sched).sh.pos = 0 ∧
        (runSched P (aInit ct script progs) sched).sh.calls = 0) := by
  obtain ⟨h, _⟩ := runSched_aInit_inv P ct script progs sched
  refine ⟨h.sh.log_owner, fun acc ha => (h.sh.brecv acc ha).1,
    fun i k items hp => ((h.users i).recv k items hp).1, ?_,
    fun hc => ⟨(h.sh.fresh hc).2.1, (h.sh.fresh hc).2.2.1⟩⟩
  intro t ht
  rw [runSched_append]
  exact (runSched_inv h more).2.owner t ht

example : demoRun.sh.owner = some .fbody ∧ demoRun2.sh.owner = some (.user 2)
    ∧ demoRun2.sh.log = [.user 2, .user 2, .user 2]
    ∧ ((runSched stdParsers (aInit .json demoScript demoProgs) (demoSched2.take 6)).users 2).pc
        = .recv 2 [[49, 50]] := by decide

/-- **What the body future ends in.**  Either its own task owned the drain and the outcome is what the client sent
(`specBody`: the concatenation of all chunks, or `ClientDisconnect`), or a user task's `stream()` owned the drain and
the outcome is `RuntimeError("Stream consumed")`: in particular no partial body. -/
theorem asgi_body_outcome (P : Parsers) (ct : CT) (script : List Msg) (progs : List (List Op))
    (sched : List TId) (r : Res Bytes)
    (hr : (runSched P (aInit ct script progs) sched).sh.fb = .done r) :
    ((runSched P (aInit ct script progs) sched).sh.owner = some .fbody ∧ specBody script = some r) ∨
    (∃ i, (runSched P (aInit ct script progs) sched).sh.owner = some (.user i) ∧ r = .err .consumed) := by
  obtain ⟨h, hscript, _⟩ := runSched_aInit_inv P ct script progs sched
  rcases h.sh.bdone r hr with ⟨a, b, _⟩ | c
  · left; rw [hscript] at b; exact ⟨a, b⟩
  · right; exact c

example : demoRun.sh.fb = .done (.ok [49, 50, 51]) ∧ specBody demoScript = some (.ok [49, 50, 51])
    ∧ demoRun2.sh.fb = .done (.err .consumed) ∧ demoRunCut.sh.fb = .done (.err .disconnect) := by decide

/-- **All concurrent awaiters obtain the same outcome.**  Whatever `body` / `json` / `form` outcome (value or exception)
any user task has recorded is the outcome stored in the one shared future; hence any two recorded outcomes of the same
accessor, in the same task or in different ones, at any two points of the run, are equal. -/
theorem asgi_concurrent_awaiters_agree (P : Parsers) (ct : CT) (script : List Msg)
    (progs : List (List Op)) (sched : List TId) (i j : Nat) :
    (∀ r r', .body r ∈ ((runSched P (aInit ct script progs) sched).users i).outs →
        .body r' ∈ ((runSched P (aInit ct script progs) sched).users j).outs →
        r = r' ∧ (runSched P (aInit ct script progs) sched).sh.fb = .done r) ∧
    (∀ r r', .json r ∈ ((runSched P (aInit ct script progs) sched).users i).outs →
        .json r' ∈ ((runSched P (aInit ct script progs) sched).users j).outs →
        r = r' ∧ (runSched P (aInit ct script progs) sched).sh.fj = .done r) ∧
    (∀ r r', .form r ∈ ((runSched P (aInit ct script progs) sched).users i).outs →
        .form r' ∈ ((runSched P (aInit ct script progs) sched).users j).outs →
        r = r' ∧ (runSched P (aInit ct script progs) sched).sh.ff = .done r) := by
  obtain ⟨h, _⟩ := runSched_aInit_inv P ct script progs sched
  refine ⟨fun r r' h1 h2 => ?_, fun r r' h1 h2 => ?_, fun r r' h1 h2 => ?_⟩
  · have a : _ = FB.done r := (h.users i).outs _ h1
    have b : _ = FB.done r' := (h.users j).outs _ h2
    exact ⟨FB.done.inj (a.symm.trans b), a⟩
  · have a : _ = FW.done r := (h.users i).outs _ h1
    have b : _ = FW.done r' := (h.users j).outs _ h2
    exact ⟨FW.done.inj (a.symm.trans b), a⟩
  · have a : _ = FW.done r := (h.users i).outs _ h1
    have b : _ = FW.done r' := (h.users j).outs _ h2
    exact ⟨FW.done.inj (a.symm.trans b), a⟩

example : (demoRun.users 0).outs = [.body (.ok [49, 50, 51]), .json (.ok [49, 50, 51])]
    ∧ (demoRun.users 1).outs = [.json (.ok [49, 50, 51]), .stream [[49, 50, 51], []] .ended]
    ∧ (demoRun.users 2).outs = [.stream [] (.raised .consumed), .body (.ok [49, 50, 51])] := by decide

/-- **Body = concatenation of all chunks, for every chunking.**  If the server sends `chunks` (any number, empty ones
included) with `more_body=True` and then the final message `last`, every `body` outcome any task records is
`chunks.flatten ++ last` or `RuntimeError("Stream consumed")`, the latter only if a user task's `stream()` owns the
drain. -/
theorem asgi_body_is_concat (P : Parsers) (ct : CT) (chunks : List Bytes) (last : Bytes)
    (tail : List Msg) (progs : List (List Op)) (sched : List TId) (i : Nat) (r : Res Bytes)
    (hr : .body r ∈ ((runSched P (aInit ct (moreMsgs chunks ++ .request last false :: tail) progs) sched).users i).outs) :
    r = .ok (chunks.flatten ++ last) ∨
    (r = .err .consumed ∧ ∃ j, (runSched P (aInit ct (moreMsgs chunks ++ .request last false :: tail) progs) sched).sh.owner
        = some (.user j)) := by
  obtain ⟨h, _⟩ := runSched_aInit_inv P ct (moreMsgs chunks ++ .request last false :: tail) progs sched
  rcases asgi_body_outcome P ct _ progs sched r ((h.users i).outs _ hr) with ⟨_, b⟩ | ⟨j, a, b⟩
  · left
    rw [specBody_complete] at b
    injection b with b
    exact b.symm
  · right; exact ⟨b, j, a⟩

example : demoScript = moreMsgs [[49, 50], []] ++ .request [51] false :: []
    ∧ .body (.ok ([[49, 50], []].flatten ++ [51])) ∈ (demoRun.users 2).outs
    ∧ .body (.err .consumed) ∈ (demoRun2.users 0).outs := by decide

/-- **A disconnect before the final chunk surfaces as ClientDisconnect, never as a truncated body.**  If the server
sends some chunks and then `http.disconnect`, the body future, once done, holds `ClientDisconnect` (or
`Stream consumed` when a user stream owns the drain), never a value; so no `body` outcome, no `json` outcome of an
`application/json` request and no `form` outcome of a urlencoded request is `ok`, and no `stream()` iteration ends
normally. -/
theorem asgi_disconnect_surfaces (P : Parsers) (ct : CT) (chunks : List Bytes) (tail : List Msg)
    (progs : List (List Op)) (sched : List TId) :
    (∀ r, (runSched P (aInit ct (moreMsgs chunks ++ .disconnect :: tail) progs) sched).sh.fb = .done r →
        r = .err .disconnect ∨ r = .err .consumed) ∧
    (∀ i b, .body (.ok b) ∉ ((runSched P (aInit ct (moreMsgs chunks ++ .disconnect :: tail) progs) sched).users i).outs) ∧
    (ct = .json → ∀ i v, .json (.ok v) ∉ ((runSched P (aInit ct (moreMsgs chunks ++ .disconnect :: tail) progs) sched).users i).outs) ∧
    (ct = .urlenc → ∀ i v, .form (.ok v) ∉ ((runSched P (aInit ct (moreMsgs chunks ++ .disconnect :: tail) progs) sched).users i).outs) ∧
    (∀ i items, .stream items .ended ∉ ((runSched P (aInit ct (moreMsgs chunks ++ .disconnect :: tail) progs) sched).users i).outs) := by
  obtain ⟨h, hscript, hct⟩ := runSched_aInit_inv P ct (moreMsgs chunks ++ .disconnect :: tail) progs sched
  have key : ∀ r, (runSched P (aInit ct (moreMsgs chunks ++ .disconnect :: tail) progs) sched).sh.fb = .done r →
      r = .err .disconnect ∨ r = .err .consumed := by
    intro r hr
    rcases asgi_body_outcome P ct _ progs sched r hr with ⟨_, b⟩ | ⟨_, _, b⟩
    · left
      rw [specBody_disconnected] at b
      injection b with b
      exact b.symm
    · right; exact b
  refine ⟨key, ?_, ?_, ?_, ?_⟩
  · intro i b hb
    rcases key _ ((h.users i).outs _ hb) with h | h <;> simp at h
  · intro hj i v hv
    obtain ⟨rb, hrb, e⟩ := h.sh.wrapJ.parsed (hct.trans hj) ((h.users i).outs _ hv)
    rcases key _ hrb with h | h <;> (subst h; simp [Res.bind] at e)
  · intro hu i v hv
    obtain ⟨rb, hrb, e⟩ := h.sh.wrapF.parsed (hct.trans hu) ((h.users i).outs _ hv)
    rcases key _ hrb with h | h <;> (subst h; simp [Res.bind] at e)
  · intro i items hi
    have := ((h.users i).outs _ hi).1 rfl
    simp [hscript, specBody_disconnected] at this

example : demoCut = moreMsgs [[49, 50]] ++ .disconnect :: []
    ∧ (demoRunCut.users 0).outs = [.body (.err .disconnect), .json (.err .disconnect)]
    ∧ (demoRunCut.users 1).outs = [.json (.err .disconnect), .stream [] (.raised .disconnect)]
    ∧ (demoRunCut.users 2).outs = [.stream [] (.raised .consumed), .body (.err .disconnect)]
    ∧ demoRunCut.sh.disc = true := by decide

/-- **json and form are computed from that same body.**  The json future, once done, holds `415` when the content type
is not JSON, and otherwise `parse(body outcome)` of the one body future (an exception of the body is passed on
unchanged); likewise `form`. -/
theorem asgi_json_form_of_the_same_body (P : Parsers) (ct : CT) (script : List Msg)
    (progs : List (List Op)) (sched : List TId) :
    (∀ r, (runSched P (aInit ct script progs) sched).sh.fj = .done r →
      (ct ≠ .json ∧ r = .err (.http 415)) ∨
      (ct = .json ∧ ∃ rb, (runSched P (aInit ct script progs) sched).sh.fb = .done rb ∧ r = rb.bind P.json)) ∧
    (∀ r, (runSched P (aInit ct script progs) sched).sh.ff = .done r →
      (ct ≠ .urlenc ∧ r = .err (.http 415)) ∨
      (ct = .urlenc ∧ ∃ rb, (runSched P (aInit ct script progs) sched).sh.fb = .done rb ∧ r = rb.bind P.form)) := by
  obtain ⟨h, _, hct⟩ := runSched_aInit_inv P ct script progs sched
  refine ⟨fun r hr => ?_, fun r hr => ?_⟩
  · have := h.sh.jdone r hr
    rwa [hct] at this
  · have := h.sh.fdone r hr
    rwa [hct] at this

example : demoRun.sh.fj = .done (.ok [49, 50, 51]) ∧ demoRun2.sh.fj = .done (.err .consumed)
    ∧ (runSched stdParsers (aInit .other demoScript [[.json, .form, .close]]) [.user 0, .fjson, .user 0, .fform, .user 0]).sh.ff
        = .done (.err (.http 415))
    ∧ ((runSched stdParsers (aInit .other demoScript [[.json, .form, .close]]) [.user 0, .fjson, .user 0, .fform, .user 0]).users 0).outs
        = [.json (.err (.http 415)), .form (.err (.http 415)), .closed (.err (.http 415))] := by decide

/-- **Once the body future has drained the channel, nothing calls `receive()` again.**  From a state in which the body
future is done and its own task was the drain owner, every continuation of the run leaves the read position, the
number of `receive()` calls and the cached outcome unchanged. -/
theorem asgi_cached_no_receive (P : Parsers) (ct : CT) (script : List Msg) (progs : List (List Op))
    (sched more : List TId) (r : Res Bytes)
    (hr : (runSched P (aInit ct script progs) sched).sh.fb = .done r)
    (ho : (runSched P (aInit ct script progs) sched).sh.owner = some .fbody) :
    (runSched P (aInit ct script progs) (sched ++ more)).sh.pos = (runSched P (aInit ct script progs) sched).sh.pos ∧
    (runSched P (aInit ct script progs) (sched ++ more)).sh.calls = (runSched P (aInit ct script progs) sched).sh.calls ∧
    (runSched P (aInit ct script progs) (sched ++ more)).sh.fb = .done r := by
  rw [runSched_append]
  exact drained_stays (runSched_aInit_inv P ct script progs sched).1 hr ho more

example : (runSched stdParsers (aInit .json demoScript demoProgs) (demoSched.take 8)).sh.fb = .done (.ok [49, 50, 51])
    ∧ (runSched stdParsers (aInit .json demoScript demoProgs) (demoSched.take 8)).sh.owner = some .fbody
    ∧ (runSched stdParsers (aInit .json demoScript demoProgs) (demoSched.take 8)).sh.calls = 3
    ∧ demoRun.sh.calls = 3 := by decide

/-- **No deadlock: with a complete script every access ends.**  If the server's script contains the end of the body (a
final chunk or a disconnect) and the pool has been run until no task can move, every user task has run its whole
program: no awaiter of `body`/`json`/`form` and no `stream()` consumer is left hanging.  With the safety theorems
above: after a disconnect before the final chunk every body-dependent access *does end*, in `ClientDisconnect` (or
`Stream consumed`), never in a value. -/
theorem asgi_no_deadlock (P : Parsers) (ct : CT) (script : List Msg) (progs : List (List Op))
    (sched : List TId) (hcomplete : specBody script ≠ none)
    (hq : ∀ t, runnable (runSched P (aInit ct script progs) sched) t = false) (i : Nat) :
    ((runSched P (aInit ct script progs) sched).users i).prog = [] := by
  obtain ⟨h, hscript, _⟩ := runSched_aInit_inv P ct script progs sched
  generalize runSched P (aInit ct script progs) sched = s at *
  -- a task suspended in receive() with no message left contradicts completeness of the script
  have noMsg : hasMsg s.sh = false → ∀ acc : Bytes,
      specFrom acc (s.sh.script.drop s.sh.pos) = specBody s.sh.script → False := by
    intro hm acc he
    have hp : s.sh.script.length ≤ s.sh.pos := by simpa [hasMsg] using hm
    rw [List.drop_eq_nil_of_le hp, hscript] at he
    exact hcomplete he.symm
  have hbd : s.sh.fb ≠ .absent → s.sh.fb.isDone = true := by
    intro hne
    have := hq .fbody
    simp only [runnable] at this
    cases hfb : s.sh.fb with
    | absent => exact absurd hfb hne
    | done r => rfl
    | created => simp [hfb] at this
    | recv acc =>
      simp only [hfb] at this
      exact (noMsg this _ (h.sh.brecv acc hfb).2.2).elim
  have hj : s.sh.fj ≠ .absent → s.sh.fj.isDone = true := by
    intro hne
    have := hq .fjson
    simp only [runnable] at this
    cases hfj : s.sh.fj with
    | absent => exact absurd hfj hne
    | done r => rfl
    | created => simp [hfj] at this
    | waitBody =>
      simp only [hfj] at this
      rw [hbd (h.sh.jwait hfj).2] at this
      cases this
  have hf : s.sh.ff ≠ .absent → s.sh.ff.isDone = true := by
    intro hne
    have := hq .fform
    simp only [runnable] at this
    cases hff : s.sh.ff with
    | absent => exact absurd hff hne
    | done r => rfl
    | created => simp [hff] at this
    | waitBody =>
      simp only [hff] at this
      rw [hbd (h.sh.fwait hff).2] at this
      cases this
  have hu := h.users i
  have hr := hq (.user i)
  simp only [runnable, uRunnable] at hr
  cases hpc : (s.users i).pc with
  | run =>
    cases hprog : (s.users i).prog with
    | nil => rfl
    | cons op rest => simp [hpc, hprog] at hr
  | wait =>
    rcases hu.wait hpc with ⟨rest, h1, h2⟩ | ⟨rest, h1, h2⟩ | ⟨rest, h1, h2⟩
    · simp [hpc, h1, hbd h2] at hr
    · simp [hpc, h1, hj h2] at hr
    · simp [hpc, h1, hf h2] at hr
  | recv k items =>
    simp only [hpc] at hr
    exact (noMsg hr _ (hu.recv k items hpc).2.2.2.2).elim

example : specBody demoCut ≠ none ∧ (∀ t ∈ allIds 3, runnable demoRunCut t = false)
    ∧ (∀ i ∈ [0, 1, 2], (demoRunCut.users i).prog = []) := by decide

/-- **What an iteration over `stream()` shows.**  The items any user task got from `stream()` concatenate to a prefix of
the body the client sent; an iteration that ran to its end got exactly the body (the replay after `body` as well as
the single real drain); one that raised `ClientDisconnect` did so because the client disconnected before the final
chunk. -/
theorem asgi_stream_outcome (P : Parsers) (ct : CT) (script : List Msg) (progs : List (List Op))
    (sched : List TId) (i : Nat) (items : List Bytes) (fin : Fin)
    (hs : .stream items fin ∈ ((runSched P (aInit ct script progs) sched).users i).outs) :
    (fin = .ended → specBody script = some (.ok items.flatten)) ∧
    (fin = .raised .disconnect → specBody script = some (.err .disconnect)) ∧
    (∀ b, specBody script = some (.ok b) → ∃ rest, items.flatten ++ rest = b) := by
  obtain ⟨h, hscript, _⟩ := runSched_aInit_inv P ct script progs sched
  have : AStreamOk _ items fin := (h.users i).outs _ hs
  rwa [hscript] at this

example : .stream [[49, 50, 51], []] .ended ∈ (demoRun.users 1).outs
    ∧ .stream [[49, 50], [51], []] .abandoned ∈ (demoRun2.users 2).outs
    ∧ .stream [] (.raised .disconnect) ∈ (demoRunCut.users 1).outs := by decide

/-- **Reading the body after the stream was consumed raises the documented error.**  As soon as a user task's
`stream()` owns the drain, the body future can only hold `RuntimeError("Stream consumed")`; so every `body` outcome
is that error, and so is every `json` / `form` outcome that needs the body. -/
theorem asgi_body_after_stream_raises_consumed (P : Parsers) (ct : CT) (script : List Msg)
    (progs : List (List Op)) (sched : List TId) (j : Nat)
    (ho : (runSched P (aInit ct script progs) sched).sh.owner = some (.user j)) :
    (∀ r, (runSched P (aInit ct script progs) sched).sh.fb = .done r → r = .err .consumed) ∧
    (∀ i r, .body r ∈ ((runSched P (aInit ct script progs) sched).users i).outs → r = .err .consumed) ∧
    (ct = .json → ∀ i r, .json r ∈ ((runSched P (aInit ct script progs) sched).users i).outs → r = .err .consumed) ∧
    (ct = .urlenc → ∀ i r, .form r ∈ ((runSched P (aInit ct script progs) sched).users i).outs → r = .err .consumed) := by
  obtain ⟨h, _, hct⟩ := runSched_aInit_inv P ct script progs sched
  have key : ∀ r, (runSched P (aInit ct script progs) sched).sh.fb = .done r → r = .err .consumed := by
    intro r hr
    rcases h.sh.bdone r hr with ⟨a, _⟩ | ⟨_, _, b⟩
    · rw [ho] at a; simp at a
    · exact b
  refine ⟨key, fun i r hr => key r ((h.users i).outs _ hr), fun hj i r hr => ?_, fun hu i r hr => ?_⟩
  · obtain ⟨rb, hrb, e⟩ := h.sh.wrapJ.parsed (hct.trans hj) ((h.users i).outs _ hr)
    rw [key rb hrb] at e; exact e
  · obtain ⟨rb, hrb, e⟩ := h.sh.wrapF.parsed (hct.trans hu) ((h.users i).outs _ hr)
    rw [key rb hrb] at e; exact e

example : demoRun2.sh.owner = some (.user 2)
    ∧ (demoRun2.users 0).outs = [.body (.err .consumed), .json (.err .consumed)]
    ∧ (demoRun2.users 2).outs = [.stream [[49, 50], [51], []] .abandoned, .body (.err .consumed)] := by decide

end Baize.Body
