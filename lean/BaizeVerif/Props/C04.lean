/-
C04 — the WSGI and ASGI stacks are observationally equivalent.

Property theorems over the abstract-HTTP model `Model/Equiv.lean` (two presentations of one
request, two separately transcribed interpreters).  Re-used, not re-modelled: C18
(`environ_scope_agree`), C01 (`formAccessor_exact`), C02 (`wsgi_asgi_same_plan_and_body`), C09
(`source_pinned`, the mount tree), C07 / C14 (the static-file and conditional-request models).
-/
import BaizeVerif.Lemmas.Equiv
import BaizeVerif.Props.C18
import BaizeVerif.Props.C01
import BaizeVerif.Props.C02

namespace Baize.Equiv

open Cookie (dictGet dictSet)

/-- **C04.0** shapes the model and the proofs were written for, regenerated from /repo on every
run: the environ keys that carry headers are `HTTP_*`, `CONTENT_TYPE`, `CONTENT_LENGTH` (the names
`toEnviron` files headers under); the ASGI side decodes names and values as Latin-1; every key,
literal, default and codec of a twin equals its counterpart (W = A), the corresponding keys name
the same header (`HTTP_HOST` / `host`, `HTTP_RANGE` / `range`, …), `list_headers` and
`bytes(cookie)` encode as Latin-1, and `set_response_headers` reaches the 304 and the 200 on both
interfaces.  The proofs rewrite with it, W → A (`simp only [source_pinned]`); `multipartTypeW` and `setHeadersOn…W`
stand on the left of two equations each, of which `simp` uses the first, so `form_equal`, which needs the second,
rewrites with the facts after this theorem. -/
theorem source_pinned :
    (Gen.Equiv.wsgiHeaderPrefix = kHttp ∧ Gen.Equiv.wsgiSpecialKeys = [kContentType, kContentLength]
      ∧ Gen.Equiv.wsgiHeaderValueVerbatim = true
      ∧ Gen.Equiv.asgiHeaderKeyCodec = "latin-1" ∧ Gen.Equiv.asgiHeaderValueCodec = "latin-1"
      ∧ Gen.Equiv.asgiHeadersKey = s "headers") ∧
    (Gen.Equiv.clientKeysW = [kRemoteAddr, kRemotePort] ∧ Gen.Equiv.clientIntCallsW = 1
      ∧ Gen.Equiv.clientKeysA = [s "client"] ∧ Gen.Equiv.clientIntCallsA = 0
      ∧ Gen.Equiv.queryKeyW = kQueryString ∧ Gen.Equiv.queryKeyA = s "query_string"
      ∧ Gen.Equiv.methodKeyW = kRequestMethod ∧ Gen.Equiv.methodKeyA = s "method"
      ∧ Gen.Equiv.pathParamsKeyW = Gen.Equiv.routerParamsKeyW ∧ Gen.Equiv.pathParamsKeyA = Gen.Equiv.routerParamsKeyA) ∧
    (Gen.Equiv.jsonTypeW = Gen.Equiv.jsonTypeA ∧ Gen.Equiv.jsonCharsetW = Gen.Equiv.jsonCharsetA
      ∧ Gen.Equiv.multipartTypeW = Gen.Equiv.multipartTypeA ∧ Gen.Equiv.multipartTypeW = Multipart.multipartType
      ∧ Gen.Equiv.multipartCharsetW = Gen.Equiv.multipartCharsetA
      ∧ Gen.Equiv.urlencodedTypeW = Gen.Equiv.urlencodedTypeA ∧ Gen.Equiv.urlencodedCharsetW = Gen.Equiv.urlencodedCharsetA
      ∧ Gen.Equiv.formDecodeErrorStatusW = Gen.Equiv.formDecodeErrorStatusA) ∧
    (Gen.Equiv.smallCharsetW = Gen.Equiv.smallCharsetA ∧ Gen.Equiv.smallMediaTypeW = Gen.Equiv.smallMediaTypeA
      ∧ Gen.Equiv.smallLenTestW = Gen.Equiv.smallLenTestA ∧ Gen.Equiv.smallLenHeaderW = Gen.Equiv.smallLenHeaderA
      ∧ Gen.Equiv.smallTypeTestW = Gen.Equiv.smallTypeTestA ∧ Gen.Equiv.smallTypeHeaderW = Gen.Equiv.smallTypeHeaderA
      ∧ Gen.Equiv.smallTextPrefixW = Gen.Equiv.smallTextPrefixA ∧ Gen.Equiv.smallCharsetJoinW = Gen.Equiv.smallCharsetJoinA
      ∧ Gen.Equiv.plainMediaTypeW = Gen.Equiv.plainMediaTypeA ∧ Gen.Equiv.htmlMediaTypeW = Gen.Equiv.htmlMediaTypeA
      ∧ Gen.Equiv.jsonMediaTypeW = Gen.Equiv.jsonMediaTypeA ∧ Gen.Equiv.redirectStatusW = Gen.Equiv.redirectStatusA
      ∧ Gen.Equiv.streamContentTypeW = Gen.Equiv.streamContentTypeA ∧ Gen.Equiv.streamTypeHeaderW = Gen.Equiv.streamTypeHeaderA
      ∧ Gen.Equiv.sseCharsetW = Gen.Equiv.sseCharsetA ∧ Gen.Equiv.streamStatusW = Gen.Equiv.streamStatusA
      ∧ Gen.Equiv.smallStatusW = Gen.Equiv.smallStatusA
      ∧ Gen.Headers.emptyBodyHeader_wsgi = Gen.Headers.emptyBodyHeader_asgi
      ∧ Gen.Headers.emptyBodyValue_wsgi = Gen.Headers.emptyBodyValue_asgi
      ∧ Gen.Headers.redirectHeader_wsgi = Gen.Headers.redirectHeader_asgi
      ∧ Gen.Equiv.listHeadersCodec = "latin-1" ∧ Gen.Equiv.cookieBytesCodec = "latin-1") ∧
    (Gen.Equiv.routerStatusW = Gen.Equiv.routerStatusA
      ∧ Gen.Equiv.hostKeyW = kHttp ++ Gen.Equiv.hostKeyA.map cgiChar ∧ Gen.Equiv.hostKeyA = Url.hostKey
      ∧ Gen.Equiv.rangeKeysW = Gen.Equiv.rangeKeysA.map (fun k => kHttp ++ k.map cgiChar)
      ∧ Gen.Equiv.rangeKeysA = [FileResponse.kRange, FileResponse.kIfRange]
      ∧ Gen.Equiv.headMethodW = Gen.Equiv.headMethodA
      ∧ Gen.Equiv.condFilesKeysW = Gen.Equiv.condFilesKeysA.map (fun k => kHttp ++ k.map cgiChar)
      ∧ Gen.Equiv.condPagesKeysW = Gen.Equiv.condFilesKeysW ∧ Gen.Equiv.condPagesKeysA = Gen.Equiv.condFilesKeysA
      ∧ Gen.Equiv.condFilesKeysA = [s "if-none-match", s "if-modified-since"]
      ∧ Gen.Equiv.staticFilesNotFoundW = Gen.Equiv.staticFilesNotFoundA
      ∧ Gen.Equiv.staticPagesNotFoundW = Gen.Equiv.staticPagesNotFoundA
      ∧ Gen.Equiv.notModifiedStatusW = Gen.Equiv.notModifiedStatusA
      ∧ Gen.Equiv.setHeadersOn304W = Gen.Equiv.setHeadersOn304A ∧ Gen.Equiv.setHeadersOn200W = Gen.Equiv.setHeadersOn200A
      ∧ Gen.Equiv.setHeadersOn304W = true ∧ Gen.Equiv.setHeadersOn200W = true) := by
  exact ⟨by decide +kernel, by decide +kernel, by decide +kernel, by decide +kernel, by decide +kernel⟩

-- what `form_equal` needs of the above, A → W
theorem multipartTypeA_eq : Gen.Equiv.multipartTypeA = Gen.Equiv.multipartTypeW := rfl
theorem multipartTypeW_eq : Gen.Equiv.multipartTypeW = Multipart.multipartType := rfl
theorem urlencodedTypeA_eq : Gen.Equiv.urlencodedTypeA = Gen.Equiv.urlencodedTypeW := rfl
theorem urlencodedCharsetA_eq : Gen.Equiv.urlencodedCharsetA = Gen.Equiv.urlencodedCharsetW := rfl
theorem formDecodeErrorStatusA_eq : Gen.Equiv.formDecodeErrorStatusA = Gen.Equiv.formDecodeErrorStatusW := rfl

/-- What makes the two presentations of an abstract request faithful: path and root path are text (a path with bytes
that are not UTF-8 is presented differently by the two server kinds); **header names are ASCII without `_`** (a real
server never presents `_`, or a non-ASCII name, identically on both interfaces: `HTTP_X_A` stands for `X-A` and for
`X_A` alike); **every name occurs once** (a WSGI server folds repeated fields with `,`, baize folds the ASGI list
with `, `). -/
structure WFRequest (r : AbsRequest) : Prop where
  rootScalar : Scalar r.rootPath
  pathScalar : Scalar r.path
  queryBytes : ∀ b ∈ r.query, b < 256
  port : r.serverPort ≤ 65535
  names : ∀ nv ∈ r.headers, NameOK nv.1
  once : (r.headers.map fun nv => Headers.lower nv.1).Nodup

/-- the finding `wsgi-client-needs-port`: when the peer address is known, so is the port -/
def ClientComplete (r : AbsRequest) : Prop :=
  ∀ h p, r.client = some (h, p) → h ≠ [] ∧ ∃ n, p = some n ∧ n ≤ 65535

/-- the gap left by C01: a multipart body is the encoding of a well-formed form (or the
content type names no boundary) -/
def FormWellFormed (r : AbsRequest) : Prop :=
  ∀ ct opts, headerGet r (s "content-type") = some ct → Multipart.parseHeaderValue ct = (Multipart.multipartType, opts) →
    Multipart.lookup (s "boundary") opts = none ∨
    ∃ b pre epi parts, Multipart.lookup (s "boundary") opts = some b ∧
      Multipart.FormOK b pre (match Multipart.lookup (s "charset") opts with
        | some c => Multipart.normCharset c | none => .utf8) parts ∧
      r.body.flatten = Multipart.encode b pre parts epi

/-- the request C18 talks about -/
def urlReq (r : AbsRequest) : Url.Request :=
  { scheme := r.scheme, serverHost := r.serverHost, serverPort := r.serverPort, host := headerGet r (s "host"),
    rootPath := r.rootPath, path := r.path, query := r.query }

/-- **C04.1a — `headers`.**  The generated key filter and name expression of the WSGI twin undo
the CGI presentation: both interfaces build `Headers(...)` from the same list of (lower-cased
name, value) pairs. -/
theorem headers_equal (r : AbsRequest) (e : Environ) (he : toEnviron r = some e)
    (hn : ∀ nv ∈ r.headers, NameOK nv.1) :
    asgiHeaders (toScope r) = .ok (wsgiHeaders e) ∧ wsgiHeaders e = Headers.initHeaders (r.headers.map lowerName) := by
  rw [wsgiHeaders_toEnviron he hn, asgiHeaders_toScope]
  exact ⟨rfl, rfl⟩

private theorem url_from_equal {r : AbsRequest} {e : Environ} (he : toEnviron r = some e) (h : WFRequest r) :
    Url.urlFromEnviron (urlEnviron e) = Url.urlFromScope (urlScope (toScope r)) := by
  have hwf : Url.WFreqText (urlReq r) = true := by
    simp only [Url.WFreqText, urlReq, Bool.and_eq_true, decide_eq_true_eq, List.all_eq_true]
    exact ⟨⟨⟨h.rootScalar, h.pathScalar⟩, h.queryBytes⟩, decide_eq_true h.port⟩
  obtain ⟨e', he', _, hargs, _⟩ := Url.environ_scope_agree (urlReq r) hwf
  obtain ⟨rp, p, env⟩ := env_shape he
  have hhost : e.get (s "HTTP_HOST") = headerGet r (s "host") := by
    have hk : kHttp ++ (s "host").map cgiChar = s "HTTP_HOST" := by decide
    rw [← hk]
    exact env_get_http he h.names (by decide)
  have hE : urlEnviron e = e' := by
    simp only [Url.environOf, urlReq, env.rootPath, env.path, Option.some.injEq] at he'
    rw [← he']
    simp only [urlEnviron, env.scriptName, env.pathInfo, env.queryString, env.serverName, env.serverPort, env.urlScheme,
      Option.getD_some, hhost]
  have hS : Url.scopeArgs (urlScope (toScope r)) = Url.scopeArgs (Url.scopeOf (urlReq r)) := by
    have hh : Url.hostKey = s "host" := by decide
    have := scope_find r (s "host")
    simp only [Url.scopeArgs, urlScope, Url.scopeOf, urlReq, toScope, hh] at this ⊢
    rw [this]
    cases headerGet r (s "host") <;> simp [s]
  simp only [Url.urlFromEnviron, Url.urlFromScope, hE, hS, hargs]

private theorem client_equal {r : AbsRequest} {e : Environ} (he : toEnviron r = some e) (hc : ClientComplete r) :
    wsgiClient e = asgiClient (toScope r) := by
  obtain ⟨ha, hp⟩ := env_get_client he
  simp only [wsgiClient, source_pinned, ha, hp, asgiClient, toScope]
  cases hcl : r.client with
  | none => simp [clientVars, dictGet]
  | some hp =>
    obtain ⟨h0, p0⟩ := hp
    obtain ⟨hne, n, rfl, hn⟩ := hc h0 p0 hcl
    have hne1 : kRemoteAddr ≠ kRemotePort := by decide +kernel
    simp [clientVars, dictGet, hne1, hne, Url.renderNat_ne_nil n, pyInt_renderNat hn]

private theorem form_equal {r : AbsRequest} (hf : FormWellFormed r) (raw : Str)
    (hraw : headerGet r (s "content-type") = some raw ∨ (headerGet r (s "content-type") = none ∧ raw = []))
    (ct : Str × List (Str × Str)) (hct : ct = Multipart.parseHeaderValue raw) :
    wsgiForm raw ct (r.body.filter fun c => !c.isEmpty) = asgiForm raw ct r.body := by
  unfold wsgiForm asgiForm
  rw [multipartTypeA_eq, urlencodedTypeA_eq, urlencodedCharsetA_eq, formDecodeErrorStatusA_eq]
  by_cases hm : ct.1 = Gen.Equiv.multipartTypeW
  · simp only [hm, if_true]
    rcases hraw with hraw | ⟨_, hraw⟩
    · have hph : Multipart.parseHeaderValue raw = (Multipart.multipartType, ct.2) := by
        rw [← hct, ← multipartTypeW_eq, ← hm]
      rcases hf raw ct.2 hraw hph with hb | ⟨b, pre, epi, parts, hb, hform, hbody⟩
      · have hb' : Multipart.lookup [98, 111, 117, 110, 100, 97, 114, 121] ct.2 = none := hb
        simp [Multipart.formAccessor, hph, hb']
      · have e1 := Multipart.formAccessor_exact false raw b pre epi parts _ ct.2 hph hb rfl hform
          (r.body.filter fun c => !c.isEmpty) (by rw [List.flatten_filter_not_isEmpty]; exact hbody)
        have e2 := Multipart.formAccessor_exact true raw b pre epi parts _ ct.2 hph hb rfl hform r.body hbody
        rw [e1, e2]
    · subst hraw
      rw [hct] at hm
      exact absurd hm (by decide)
  · simp only [hm, if_false, List.flatten_filter_not_isEmpty]

private theorem json_equal : wsgiJson = asgiJson := by
  funext ct body
  simp only [wsgiJson, asgiJson, source_pinned]

theorem toEnviron_defined {r : AbsRequest} (h : WFRequest r) : ∃ e, toEnviron r = some e := by
  simp [toEnviron, utf8Encode_enc h.rootScalar, utf8Encode_enc h.pathScalar]

/-- **C04.1 — the request view.**  The property: *for every abstract request*
`wsgiView (toEnviron r) = asgiView (toScope r)`, the whole accessor record: method, URL, headers, query parameters,
cookies, content type and length, accepted types, date, referrer, client, body, JSON and form inputs, path
parameters (whatever `Router` stored, `pp`).  Proved under `WFRequest` and two hypotheses beyond the property text:
`ClientComplete` — the WSGI twin forgets the peer address when the server gives no REMOTE_PORT
(`client_needs_port_witness`) — and `FormWellFormed` — the `multipart/form-data` bodies for which C01 proves
chunking independence. -/
theorem request_view_equal_partial (r : AbsRequest) (h : WFRequest r) (hc : ClientComplete r)
    (hf : FormWellFormed r) (pp : Option Params) :
    ∃ e, toEnviron r = some e ∧
      wsgiView { e with pathParams := pp } = asgiView { toScope r with pathParams := pp } := by
  obtain ⟨e, he⟩ := toEnviron_defined h
  refine ⟨e, he, ?_⟩
  obtain ⟨hHa, hHw⟩ := headers_equal r e he h.names
  have hU : wsgiUrl e = asgiUrl (toScope r) := by
    simp only [wsgiUrl, asgiUrl, Url.wsgiRequestUrl, Url.asgiRequestUrl, url_from_equal he h]
  have hC := client_equal he hc
  obtain ⟨rp, p, env⟩ := env_shape he
  have hM : wsgiMethod e = asgiMethod (toScope r) := by
    simp [wsgiMethod, asgiMethod, source_pinned, env.requestMethod, toScope]
  have hQ : wsgiQuery e = asgiQuery (toScope r) := by
    simp [wsgiQuery, asgiQuery, source_pinned, env.queryString, toScope]
  have hS : wsgiStream e = r.body.filter (fun c => !c.isEmpty) := by
    rw [wsgiStream, env.input]
    simpa using List.takeWhile_append_of_pos (p := fun c : Bytes => !c.isEmpty) (l₂ := [])
      fun c hc => (List.mem_filter.mp hc).2
  have hB : (wsgiStream e).flatten = (asgiStream (toScope r)).flatten := by
    rw [hS]; simp [asgiStream, toScope]
  have hP : wsgiPathParams { e with pathParams := pp } = asgiPathParams { toScope r with pathParams := pp } := by
    simp [wsgiPathParams, asgiPathParams, source_pinned]
  have hraw : mixinGet Gen.Equiv.mixin_content_type 0 (wsgiHeaders e) = some ((headerGet r (s "content-type")).getD []) := by
    have hspec : Gen.Equiv.mixin_content_type = [(s "content-type", some [])] := by decide
    rw [hHw, hspec]
    simp only [mixinGet, List.getElem?_cons_zero]
    rw [headers_get r h.once (s "content-type") (by decide)]
    cases headerGet r (s "content-type") <;> rfl
  -- both views unfolded; only `…PathParams` reads the field `pathParams`, so every other accessor is written for `e` and
  -- `toScope r` themselves, as in the equations above
  show viewOf (wsgiMethod e) (wsgiUrl e) (.ok (wsgiHeaders e)) (wsgiQuery e) (wsgiClient e) (wsgiStream e).flatten
      (fun ct => wsgiJson ct (wsgiStream e).flatten) (fun raw ct => wsgiForm raw ct (wsgiStream e))
      (wsgiPathParams { e with pathParams := pp })
    = viewOf (asgiMethod (toScope r)) (asgiUrl (toScope r)) (asgiHeaders (toScope r)) (asgiQuery (toScope r))
      (asgiClient (toScope r)) (asgiStream (toScope r)).flatten
      (fun ct => asgiJson ct (asgiStream (toScope r)).flatten) (fun raw ct => asgiForm raw ct (toScope r).messages)
      (asgiPathParams { toScope r with pathParams := pp })
  rw [hM, hU, hHa, hQ, hC, hB, hP, json_equal]
  simp only [viewOf, hraw, Option.getD_some]
  have hform : wsgiForm ((headerGet r (s "content-type")).getD []) (contentType (wsgiHeaders e)) (wsgiStream e)
      = asgiForm ((headerGet r (s "content-type")).getD []) (contentType (wsgiHeaders e)) (toScope r).messages := by
    rw [hS]
    apply form_equal hf
    · cases headerGet r (s "content-type") with
      | none => right; exact ⟨rfl, rfl⟩
      | some v => left; rfl
    · simp only [contentType, hraw, Option.getD_some]
  rw [hform]

/-- non-vacuity: a POST with mixed-case header names, a cookie, a non-ASCII path below a
non-ASCII root path, a query string and a JSON body in three chunks, one of them empty -/
def exRequest : AbsRequest :=
  { method := s "POST", scheme := s "https", serverHost := s "srv", serverPort := 8443,
    rootPath := [47, 114, 233], path := [47, 26085, 47, 120], query := [97, 61, 49, 38, 98, 61, 233],
    headers := [(s "Content-Type", s "application/json; charset=utf-8"), (s "ACCEPT", s "text/html, */*;q=0.1"),
                (s "cookie", s "a=b; c=\"d\\040e\""), (s "Host", s "example.org:8443"), (s "content-length", s " 7 ")],
    client := some (s "10.0.0.9", some 40000), body := [s "{\"a\":", [], s "1}"] }

example : WFRequest exRequest ∧ ClientComplete exRequest := by
  refine ⟨⟨by decide, by decide, by decide, by decide, by decide +kernel, by decide +kernel⟩, ?_⟩
  intro h p hp
  simp only [exRequest, Option.some.injEq, Prod.mk.injEq] at hp
  obtain ⟨rfl, rfl⟩ := hp
  exact ⟨by decide, 40000, rfl, by decide⟩

example : FormWellFormed exRequest := by
  intro ct opts hct hph
  have : headerGet exRequest (s "content-type") = some (s "application/json; charset=utf-8") := by decide +kernel
  rw [this] at hct
  injection hct with hct
  subst hct
  have : (Multipart.parseHeaderValue (s "application/json; charset=utf-8")).1 ≠ Multipart.multipartType := by decide +kernel
  rw [hph] at this
  exact absurd rfl this

example : (toEnviron exRequest).map (fun e => (wsgiView e).contentLength) = some (some 7)
    ∧ (asgiView (toScope exRequest)).contentLength = some 7
    ∧ (asgiView (toScope exRequest)).cookies = [(s "a", s "b"), (s "c", s "d e")]
    ∧ (asgiView (toScope exRequest)).body = s "{\"a\":1}" := by decide +kernel

/-- **C04.1b — why `ClientComplete` is needed.**  A peer whose address the gateway knows but
whose port it does not (wsgiref: REMOTE_ADDR without REMOTE_PORT; ASGI: `client = (host, None)`)
has `client.host = None` on WSGI and the address on ASGI.  (Finding `wsgi-client-needs-port`.) -/
theorem client_needs_port_witness :
    let r : AbsRequest := { exRequest with client := some (s "10.0.0.9", none) }
    (toEnviron r).map (fun e => (wsgiView e).client) = some (.ok (none, none)) ∧
    (asgiView (toScope r)).client = .ok (some (s "10.0.0.9"), none) := by
  decide +kernel

/-- the only way the two observations of one response construction can differ: the ASGI twin
fails to encode the header list (`list_headers(as_bytes=True)`) while the WSGI twin hands the text
to the server — non-Latin-1 header text, C05's subject -/
def Diverges (w a : Outcome) : Prop :=
  a = .crash "UnicodeEncodeError" ∧ ∃ sse st hs b, w = .response sse st hs b

def Rel (w a : Outcome) : Prop := w.approx a ∨ Diverges w a

theorem approx_refl (w : Outcome) : w.approx w := by
  cases w with
  | response sse st h b => cases sse <;> simp [Outcome.approx]
  | http st => simp [Outcome.approx]
  | crash k => simp [Outcome.approx]

private theorem rel_refl (w : Outcome) : Rel w w := Or.inl (approx_refl w)

private theorem emit_rel (sse : Bool) (st : Nat) (h : Headers.Hdrs) (ck : List Cookie.CookieRec) (b : Bytes) :
    Rel (emitW sse st h ck b) (emitA sse st h ck b) := by
  unfold emitA
  split
  · exact rel_refl _
  · exact Or.inr ⟨rfl, sse, st, _, b, rfl⟩

private theorem setOr_rel (x : Except Headers.Err Headers.Hdrs) (kW kA : Headers.Hdrs → Outcome)
    (h : ∀ hd, Rel (kW hd) (kA hd)) : Rel (setOr x kW) (setOr x kA) := by
  cases x with
  | ok hd => exact h hd
  | error _ => exact rel_refl _

private theorem empty_rel (c : Common) : Rel (emptyW c) (emptyA c) := by
  simp only [emptyW, emptyA, source_pinned]
  exact setOr_rel _ _ _ fun hd => emit_rel _ _ _ _ _

private theorem small_rel (k : SmallKind) (body : Bytes) (mt cs : Option Str) (c : Common) :
    Rel (smallW k body mt cs c) (smallA k body mt cs c) := by
  have hk : classMediaTypeW k = classMediaTypeA k := by
    cases k <;> simp only [classMediaTypeW, classMediaTypeA, source_pinned]
  simp only [smallW, smallA, source_pinned, hk]
  exact setOr_rel _ _ _ fun h1 => setOr_rel _ _ _ fun h2 => emit_rel _ _ _ _ _

private theorem redirect_rel (url : Str) (c : Common) : Rel (redirectW url c) (redirectA url c) := by
  simp only [redirectW, redirectA, source_pinned]
  cases Headers.iriToUri url with
  | none => exact rel_refl _
  | some u => exact setOr_rel _ _ _ fun h1 => setOr_rel _ _ _ fun h2 => emit_rel _ _ _ _ _

private theorem stream_rel (chunks : List Bytes) (ct : Option Str) (c : Common) :
    Rel (streamW chunks ct c) (streamA chunks ct c) := by
  have hb : (chunks ++ [[]]).flatten = chunks.flatten := by simp
  simp only [streamW, streamA, source_pinned, hb]
  exact setOr_rel _ _ _ fun h1 => emit_rel _ _ _ _ _

private theorem dropConnection_list (h : Headers.Hdrs) (ck : List Cookie.CookieRec) :
    dropConnection (lowerNames (Headers.listHeaders h ck)) =
      lowerNames (h.filter fun kv => notConnection kv.1)
        ++ dropConnection (lowerNames (ck.map fun c => (Gen.Headers.setCookieName, Cookie.line c))) := by
  simp only [dropConnection, lowerNames, Headers.listHeaders, List.map_append, List.filter_append, List.filter_map]
  congr 1

private theorem sse_core (events : List SSE.Event) (charset : Str) (c : Common) :
    Rel (sseCoreW events charset c) (sseCoreA events charset c) := by
  have g2 : Gen.SSE.asgiCharsetSuffix = Gen.SSE.wsgiCharsetSuffix := by decide
  have g3 : Gen.SSE.asgiRequiredHeaders.filter (fun kv => notConnection kv.1) = Gen.SSE.wsgiRequiredHeaders.filter (fun kv => notConnection kv.1) := by
    decide
  have g4 : notConnection Gen.SSE.wsgiCharsetSuffix.1 = true := by decide
  have g5 : (dictGet Gen.SSE.wsgiRequiredHeaders Gen.SSE.wsgiCharsetSuffix.1).isSome = true := by decide
  have g6 : (dictGet Gen.SSE.asgiRequiredHeaders Gen.SSE.wsgiCharsetSuffix.1).isSome = true := by decide
  obtain ⟨dw, hW, hfW⟩ := addCharset_merge g4 g5 c.headers charset
  obtain ⟨da, hA, hfA⟩ := addCharset_merge g4 g6 c.headers charset
  have hdd : dw.filter (fun kv => notConnection kv.1) = da.filter (fun kv => notConnection kv.1) :=
    Option.some.inj (hfW.trans (g3 ▸ hfA).symm)
  simp only [sseCoreW, sseCoreA, g2, wire_events, hW, hA]
  cases encodeText charset (SSE.wire .wsgi (events.map SSE.Item.ev)) with
  | http st => exact rel_refl _
  | crash k => exact rel_refl _
  | ok body =>
    simp only [List.append_nil, emitW, emitA]
    split
    · left
      simp only [Outcome.approx, true_and, and_true]
      rw [dropConnection_list, dropConnection_list, Headers.initHeaders_filter notConnection_lower,
        Headers.initHeaders_filter notConnection_lower, hdd]
    · exact Or.inr ⟨rfl, true, c.status, _, body, rfl⟩

/-- **C04.2b — the sanctioned difference.**  The two event-stream responses built from the same
arguments (any user headers, cookies, charset, finite event list) have the same status, the same
body bytes and header lists that differ in nothing but `connection` entries — or `Diverges`. -/
theorem sse_connection_only (events : List SSE.Event) (cs : Option Str) (c : Common) :
    Rel (sseW events cs c) (sseA events cs c) := by
  simp only [sseW, sseA, source_pinned]
  exact sse_core events _ c

/-- `FileResponse` (C02's `wsgi_asgi_same_plan_and_body`) with the headers appended after
construction and the cookies in place -/
private theorem file_rel (f : FileSpec) (extra : List (Str × Str)) (ck : List Cookie.CookieRec)
    {r : AbsRequest} {e : Environ} (he : toEnviron r = some e) (h : WFRequest r)
    (hc : 1 ≤ f.chunk) (hsz : f.stat.size = f.content.length) :
    Rel (fileW f extra ck e) (fileA f extra ck (toScope r)) := by
  obtain ⟨_, _, env⟩ := env_shape he
  have hR : e.get (kHttp ++ FileResponse.kRange.map cgiChar) = headerGet r FileResponse.kRange :=
    env_get_http he h.names (by decide)
  have hI : e.get (kHttp ++ FileResponse.kIfRange.map cgiChar) = headerGet r FileResponse.kIfRange :=
    env_get_http he h.names (by decide)
  have hscan : FileResponse.scanHeaders (toScope r).headers (none, none)
      = (headerGet r FileResponse.kRange, headerGet r FileResponse.kIfRange) := by
    rw [scanHeaders_eq, scope_scan r h.once, scope_scan r h.once]; simp
  have gb : boundaryA = boundaryW := by decide
  obtain ⟨hplan, hstart, hbody⟩ := FileResponse.wsgi_asgi_same_plan_and_body (headerGet r FileResponse.kRange)
    (headerGet r FileResponse.kIfRange) (toScope r).headers f.stat hscan false (r.method == Gen.Equiv.headMethodA)
    f.contentType boundaryW f.chunk f.content hc hsz
  have hmeth : (toScope r).method = r.method := rfl
  simp only [fileW, fileA, env.requestMethod, source_pinned, List.map, gb, hR, hI, hmeth, hplan]
  rw [hplan] at hstart hbody
  cases hev : FileResponse.asgiEvents false (r.method == Gen.Equiv.headMethodA) f.contentType boundaryW f.chunk f.stat
      f.content (FileResponse.wsgiPlan (headerGet r FileResponse.kRange) (headerGet r FileResponse.kIfRange) f.stat) with
  | nil => rw [hev] at hstart; simp at hstart
  | cons x xs =>
    rw [hev] at hstart hbody
    simp only [List.head?_cons, Option.some.injEq] at hstart
    simp only [List.tail_cons] at hbody
    subst hstart
    simp only [hbody]
    split
    · exact rel_refl _
    · exact Or.inr ⟨rfl, false, _, _, _, rfl⟩

/-- what makes a `file` recipe one of C02's file responses -/
def RecipeOK : Recipe → Prop
  | .file f _ => 1 ≤ f.chunk ∧ f.stat.size = f.content.length
  | _ => True

/-- **C04.2 — the response classes.**  The property: for every response construction, `obs wsgi ≈ obs asgi`
(`≈` forgives exactly the `connection` entries of the event-stream response).  Proved for every recipe (`Response`,
`PlainTextResponse`, `HTMLResponse`, `JSONResponse`, `RedirectResponse`, `StreamResponse`, `SendEventResponse`,
`FileResponse` — any status, extra headers, cookies, content) and every well-formed request as a dichotomy: `≈`,
**or** `Diverges` (`response_latin1_witness`). -/
theorem response_equal (rc : Recipe) (hrc : RecipeOK rc) (r : AbsRequest) (e : Environ) (he : toEnviron r = some e)
    (h : WFRequest r) :
    Rel (wsgiRespond rc e) (asgiRespond rc (toScope r)) := by
  cases rc with
  | empty c => exact empty_rel c
  | small k body mt cs c => exact small_rel k body mt cs c
  | redirect url c => exact redirect_rel url c
  | stream chunks ct c => exact stream_rel chunks ct c
  | sse events cs c => exact sse_connection_only events cs c
  | file f c => exact file_rel f [] c.cookies he h hrc.1 hrc.2

/-- corollary in the shape of the property text -/
theorem response_equal_encodable (rc : Recipe) (hrc : RecipeOK rc) (r : AbsRequest) (e : Environ)
    (he : toEnviron r = some e) (h : WFRequest r)
    (henc : asgiRespond rc (toScope r) ≠ .crash "UnicodeEncodeError") :
    (wsgiRespond rc e).approx (asgiRespond rc (toScope r)) := by
  rcases response_equal rc hrc r e he h with h1 | ⟨h2, _⟩
  · exact h1
  · exact absurd h2 henc

/-- **C04.2c — `Diverges` happens.**  `Response(200, {"x": "日"})`: the WSGI twin passes the text
to `start_response`, the ASGI twin raises UnicodeEncodeError. -/
theorem response_latin1_witness :
    emptyW ⟨200, [(s "x", [26085])], []⟩ = .response false 200 [(s "x", [26085]), (s "content-length", s "0")] [] ∧
    emptyA ⟨200, [(s "x", [26085])], []⟩ = .crash "UnicodeEncodeError" := by
  decide +kernel

example : RecipeOK (.file ⟨⟨3, s "lm", s "et"⟩, s "text/plain", none, [1, 2, 3], 2⟩ ⟨200, [], []⟩) := ⟨by decide, rfl⟩

example : (toEnviron exRequest).map (wsgiRespond (.small .html (s "<p>") none none ⟨404, [(s "X-A", s "1")], []⟩))
    = some (asgiRespond (.small .html (s "<p>") none none ⟨404, [(s "X-A", s "1")], []⟩) (toScope exRequest)) := by
  decide +kernel

example : sseW [⟨[], some (s "hi")⟩] none ⟨200, [], []⟩
      = .response true 200 [(s "cache-control", s "no-cache"), (s "content-type", s "text/event-stream; charset=utf-8")]
          (s "data: hi\n\n")
    ∧ sseA [⟨[], some (s "hi")⟩] none ⟨200, [], []⟩
      = .response true 200 [(s "cache-control", s "no-cache"), (s "connection", s "keep-alive"),
          (s "content-type", s "text/event-stream; charset=utf-8")] (s "data: hi\n\n") := by
  decide +kernel

/-- **C04.3a — `Files` / `Pages`.**  For every static application (any directory, any file
system, any file metadata, any cacheability) and every well-formed request, the two twins answer
alike: the same file (C07), the same 304-vs-200 decision on the same validators (C14), the same
`FileResponse` (C02) with the same `Cache-Control` / `Vary` on the 200 **and on the 304**, the same
directory redirect (C18), the same `HTTPException(404)` — or `Diverges`. -/
theorem static_equal (a : StaticApp)
    (hmeta : ∀ p, 1 ≤ (a.metaOf p).spec.chunk ∧ (a.metaOf p).spec.stat.size = (a.metaOf p).spec.content.length)
    (r : AbsRequest) (e : Environ) (he : toEnviron r = some e) (h : WFRequest r) :
    Rel (staticW a e) (staticA a (toScope r)) := by
  have hInm : e.get (kHttp ++ (s "if-none-match").map cgiChar) = headerGet r (s "if-none-match") :=
    env_get_http he h.names (by decide)
  have hIms : e.get (kHttp ++ (s "if-modified-since").map cgiChar) = headerGet r (s "if-modified-since") :=
    env_get_http he h.names (by decide)
  have hpath : (toScope r).path = r.path := rfl
  simp only [staticW, staticA, source_pinned, List.map, requestPath_text he, hInm, hIms, scope_scan r h.once,
    serve_iface a.dir a.cwd a.pages a.fs h.pathScalar, notModified_iface, url_from_equal he h, hpath]
  cases (Static.serve ⟨a.dir, a.cwd, a.pages, false⟩ a.fs r.path).resp with
  | file c =>
    simp only []
    split
    · exact setOr_rel _ _ _ fun h1 => setOr_rel _ _ _ fun h2 => emit_rel _ _ _ _ _
    · exact file_rel _ _ _ he h (hmeta _).1 (hmeta _).2
  | notFound => exact rel_refl _
  | crash k => exact rel_refl _
  | _ =>      -- the two directory redirects
    simp only []
    cases redirectUrl (Url.urlFromScope (urlScope (toScope r))) with
    | ok loc => exact redirect_rel loc _
    | http st => exact rel_refl _
    | crash k => exact rel_refl _

def EndpointOK (site : Site) : Endpoint → Prop
  | .respond rc => RecipeOK rc
  | .view i => ∀ v, RecipeOK (site.views i v)
  | .static a => ∀ p, 1 ≤ (a.metaOf p).spec.chunk ∧ (a.metaOf p).spec.stat.size = (a.metaOf p).spec.content.length

def LeafOK (site : Site) : Leaf → Prop
  | .ep ep => EndpointOK site ep
  | .router routes => ∀ ir ∈ routes, EndpointOK site ir.2

def hasRouter (site : Site) : Prop := ∃ i routes, site.leaf i = .router routes

/-- the hypotheses of the composition theorem: the parts are C02 file responses where they are
file responses, **mount prefixes are ASCII** and **under a `Router` the request path is ASCII**
(the two recorded findings: the WSGI twins match configured text against the Latin-1 presentation
of the UTF-8 path) -/
structure SiteOK (site : Site) (r : AbsRequest) : Prop where
  leaves : ∀ i, LeafOK site (site.leaf i)
  asciiPrefixes : asciiApp site.tree = true
  routerPath : hasRouter site → Ascii r.path

private theorem rewritten_toEnviron {r : AbsRequest} {e : Environ} (he : toEnviron r = some e) (rq : Mount.Req)
    (hok : ReqOK rq) :
    toEnviron { r with rootPath := rq.rootD, path := rq.path } = some (e.rewritten (encReq rq)) := by
  obtain ⟨rp, p, _, _, rfl⟩ := toEnviron_some he
  obtain ⟨h1, h2, h3⟩ := hok
  cases hroot : rq.root with
  | none => simp [hroot] at h3
  | some rt =>
    have hrd : rq.rootD = rt := by simp [Mount.Req.rootD, hroot]
    rw [hrd] at h2
    simp only [toEnviron, hrd, utf8Encode_enc h2, utf8Encode_enc h1, Environ.rewritten, encReq, hroot, Option.map_some,
      Environ.set, Option.some.injEq, baseVars, cgi_keys, headerVars]
    simp [dictSet]

private theorem wf_rewritten {r : AbsRequest} (h : WFRequest r) {rq : Mount.Req} (hok : ReqOK rq) :
    WFRequest { r with rootPath := rq.rootD, path := rq.path } :=
  ⟨hok.2.1, hok.1, h.queryBytes, h.port, h.names, h.once⟩

private theorem endpoint_rel (site : Site) (ep : Endpoint) (hep : EndpointOK site ep) (r : AbsRequest) (e : Environ)
    (he : toEnviron r = some e) (h : WFRequest r) (hc : ClientComplete r) (hf : FormWellFormed r) (pp : Option Params) :
    Rel (endpointW site ep { e with pathParams := pp }) (endpointA site ep { toScope r with pathParams := pp }) := by
  cases ep with
  | respond rc => exact response_equal rc hep r e he h
  | view i =>
    obtain ⟨e', he', hv⟩ := request_view_equal_partial r h hc hf pp
    rw [he] at he'
    injection he' with he'
    subst he'
    simp only [endpointW, endpointA, hv]
    exact response_equal _ (hep _) r e he h
  | static a => exact static_equal a hep r e he h

private theorem leaf_rel (site : Site) (l : Leaf) (hl : LeafOK site l) (r : AbsRequest) (e : Environ)
    (he : toEnviron r = some e) (h : WFRequest r) (hc : ClientComplete r) (hf : FormWellFormed r)
    (hpath : (∃ routes, l = .router routes) → Ascii r.path) :
    Rel (leafW site l e) (leafA site l (toScope r)) := by
  cases l with
  | ep ep =>
    obtain ⟨_, _, _, _, rfl⟩ := toEnviron_some he
    exact endpoint_rel site ep hl r _ he h hc hf none
  | router routes =>
    have hasc : Ascii r.path := hpath ⟨routes, rfl⟩
    obtain ⟨rp, p, env⟩ := env_shape he
    have hpp : p = r.path := by
      rw [← enc_ascii hasc]
      exact Option.some.inj (env.path.symm.trans (utf8Encode_enc h.pathScalar))
    simp only [leafW, leafA, env.pathInfo, Option.getD_some, hpp, source_pinned]
    have hsp : (toScope r).path = r.path := rfl
    rw [hsp]
    cases hrs : routerSearch site.rm routes r.path with
    | none => exact empty_rel _
    | raised k => exact rel_refl _
    | found ep prm =>
      obtain ⟨i, hi⟩ := routerSearch_found hrs
      exact endpoint_rel site ep (hl (i, ep) hi) r e he h hc hf (some prm)

/-- **C04.3b — the mount tree does not see the presentation.**  For a tree of `Subpaths` /
`Hosts` of any depth whose prefixes are ASCII and any request whose path and root path are text:
the WSGI tree, working on the Latin-1 presentation of the UTF-8 bytes, selects the same leaf (or
answers the same 404) as the ASGI tree working on the text, and passes on the presentation of
the same rewritten request.  (Structural induction over C09's `dispatch`.) -/
theorem dispatch_presentations (fm : Nat → Str → Bool) (t : Mount.App) (rq : Mount.Req)
    (ht : asciiApp t = true) (hrq : ReqOK rq) :
    Mount.dispatch fm t (encReq rq) = encRes (Mount.dispatch fm t rq) ∧ ReqOK (Mount.dispatch fm t rq).req :=
  (dispatch_enc_all fm).1 t rq ht hrq

/-- **C04.3 — compositions.**  The property: for every application built from the bundled parts and every abstract
request, `obs (wsgiRun app (toEnviron r)) ≈ obs (asgiRun app (toScope r))`.  Proved by structural induction over
the `Subpaths` / `Hosts` tree (any depth, `dispatch_presentations`) and case analysis of what a leaf can be (a
response object, a `request_response` view — *any* function of the request view —, `Files` / `Pages`, a `Router`
over such endpoints), under `WFRequest`, `ClientComplete`, `FormWellFormed` and `SiteOK`, with `Rel` as conclusion.
Partial in three respects, all stated as hypotheses: mount prefixes ASCII (`mount_prefix_witness`), ASCII path
under a `Router` (`router_path_witness`), and the `Router` is a table over an opaque `Route.matches` (C08's model
is not in this tree). -/
theorem app_equal_partial (site : Site) (r : AbsRequest) (e : Environ) (he : toEnviron r = some e)
    (h : WFRequest r) (hc : ClientComplete r) (hf : FormWellFormed r) (hs : SiteOK site r) :
    Rel (wsgiRun site e) (asgiRun site (toScope r)) := by
  obtain ⟨rp, p, env⟩ := env_shape he
  have hrp' : rp = enc r.rootPath := Option.some.inj (env.rootPath.symm.trans (utf8Encode_enc h.rootScalar))
  have hp' : p = enc r.path := Option.some.inj (env.path.symm.trans (utf8Encode_enc h.pathScalar))
  have hhost : e.get (kHttp ++ Url.hostKey.map cgiChar) = headerGet r Url.hostKey :=
    env_get_http he h.names (by decide)
  have hreq : mountReqW e = encReq (mountReqA (toScope r)) := by
    simp only [mountReqW, mountReqA, encReq, env.scriptName, env.pathInfo, Option.getD_some, source_pinned, hhost,
      scope_scan r h.once, Option.map_some, hrp', hp']
    rfl
  have hok : ReqOK (mountReqA (toScope r)) := ⟨h.pathScalar, h.rootScalar, rfl⟩
  obtain ⟨hd, hres⟩ := dispatch_presentations site.fm site.tree (mountReqA (toScope r)) hs.asciiPrefixes hok
  have hrem := (Mount.remainder site.fm site.tree (mountReqA (toScope r))).1
  unfold wsgiRun asgiRun
  rw [hreq, hd]
  cases hdisp : Mount.dispatch site.fm site.tree (mountReqA (toScope r)) with
  | notFound byHost rq =>
    cases byHost with
    | false =>
      simp only [encRes, Mount.status_pinned]
      exact empty_rel _
    | true =>
      have g : Gen.Mount.hostsBodyA = Gen.Mount.hostsBodyW := by decide
      simp only [encRes, Mount.status_pinned, g]
      exact small_rel _ _ _ _ _
  | hit i rq =>
    rw [hdisp] at hres hrem
    simp only [Mount.Res.req] at hres hrem
    simp only [encRes]
    have he' := rewritten_toEnviron he rq hres
    have hsc : (toScope r).rewritten rq = toScope { r with rootPath := rq.rootD, path := rq.path } := rfl
    rw [hsc]
    apply leaf_rel site (site.leaf i) (hs.leaves i) _ _ he' (wf_rewritten h hres) hc hf
    intro ⟨routes, hl⟩
    have hasc := hs.routerPath ⟨i, routes, hl⟩
    intro c hcm
    apply hasc c
    have : (mountReqA (toScope r)).path = r.path := rfl
    rw [this] at hrem
    rw [hrem]
    exact List.mem_append_right _ hcm

/-- a one-leaf world for the witnesses -/
def exSite (tree : Mount.App) (leaf : Leaf) : Site :=
  { tree := tree, leaf := fun _ => leaf, fm := fun _ _ => true,
    views := fun _ v => .small .plain (v.pathParams.flatMap (·.2)) none none ⟨200, [], []⟩,
    rm := fun _ p => .params [(s "name", p.drop 1)] }

def exGet (path : Str) : AbsRequest :=
  { method := s "GET", scheme := s "http", serverHost := s "srv", serverPort := 80, rootPath := [], path := path,
    query := [], headers := [], client := some (s "10.0.0.9", some 4000), body := [] }

/-- **C04.3c — why mount prefixes must be ASCII** (finding `wsgi-nonascii-mount-prefix`):
`Subpaths(("/é", app))` and the request path `/é`: ASGI reaches the application, WSGI — whose
PATH_INFO is `/Ã©` — answers 404. -/
theorem mount_prefix_witness :
    let site := exSite (.mount [([47, 233], .leaf 0)]) (.ep (.respond (.empty ⟨200, [], []⟩)))
    (toEnviron (exGet [47, 233])).map (wsgiRun site) = some (.response false 404 [(s "content-length", s "0")] []) ∧
    asgiRun site (toScope (exGet [47, 233])) = .response false 200 [(s "content-length", s "0")] [] := by
  decide +kernel

/-- **C04.3d — why the path must be ASCII under a `Router`** (finding `wsgi-router-nonascii-path`):
a route `/{name}` and the request path `/é`: the ASGI view sees `name = "é"`, the WSGI view the
Latin-1 reading of its UTF-8 bytes, `"Ã©"`. -/
theorem router_path_witness :
    let site := exSite (.leaf 0) (.router [(0, .view 0)])
    (toEnviron (exGet [47, 233])).map (wsgiRun site)
      = some (.response false 200 [(s "content-length", s "2"), (s "content-type", s "text/plain; charset=utf-8")] [195, 169]) ∧
    asgiRun site (toScope (exGet [47, 233]))
      = .response false 200 [(s "content-length", s "1"), (s "content-type", s "text/plain; charset=utf-8")] [233] := by
  decide +kernel

-- non-vacuity of `app_equal_partial`: a mount inside a host table, with a router below it or, in the third example,
-- a view and a request whose tail is not ASCII (which `SiteOK` rules out under a `Router`)
def exTree : Mount.App := .hosts [(0, .mount [(s "/api", .leaf 0), ([], .leaf 1)])]

example : SiteOK (exSite exTree (.router [(0, .view 0)])) (exGet (s "/api/bob")) := by
  refine ⟨fun i => ?_, by decide, fun _ => by decide⟩
  intro ir hir
  simp only [List.mem_singleton] at hir
  subst hir
  intro v
  exact trivial

example : (toEnviron (exGet (s "/api/bob"))).map (wsgiRun (exSite exTree (.router [(0, .view 0)])))
    = some (asgiRun (exSite exTree (.router [(0, .view 0)])) (toScope (exGet (s "/api/bob")))) := by decide +kernel

example : WFRequest (exGet ([47, 97, 112, 105, 47, 26085])) ∧ asciiApp exTree = true
    ∧ (toEnviron (exGet [47, 97, 112, 105, 47, 26085])).map (wsgiRun (exSite exTree (.ep (.view 0))))
      = some (asgiRun (exSite exTree (.ep (.view 0))) (toScope (exGet [47, 97, 112, 105, 47, 26085]))) := by
  refine ⟨⟨by decide, by decide, by decide, by decide, by decide, by decide⟩, by decide, by decide +kernel⟩

end Baize.Equiv
