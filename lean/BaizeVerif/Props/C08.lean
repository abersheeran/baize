/-
C08 — the router dispatches to the first matching route with typed parameters.

All theorems quantify over every compiled route (any list of literal and placeholder pieces, adjacent
placeholders included), every route table and every path (any list of code points).
-/
import BaizeVerif.Lemmas.Router

namespace Baize.Router

/-- `ts` cuts a text along the pieces of a route, one text per piece; a placeholder's text is matched by
its convertor's regex -/
def ShapeValid : List Seg → List (List Nat) → Prop
  | [], [] => True
  | .lit s :: segs, t :: ts => t = s ∧ ShapeValid segs ts
  | .param _ c :: segs, t :: ts => shape c t = true ∧ ShapeValid segs ts
  | _, _ => False

/-- the same with the full language of each type: the text also denotes a value (`to_python` succeeds) -/
def Valid : List Seg → List (List Nat) → Prop
  | [], [] => True
  | .lit s :: segs, t :: ts => t = s ∧ Valid segs ts
  | .param _ c :: segs, t :: ts => accepts c t = true ∧ Valid segs ts
  | _, _ => False

/-- `ps` are the placeholders' names with the values their texts denote, in order -/
def Denotes : List Seg → List (List Nat) → Params → Prop
  | [], [], [] => True
  | .lit _ :: segs, _ :: ts, ps => Denotes segs ts ps
  | .param n c :: segs, t :: ts, (n', v) :: ps => n' = n ∧ toPython c t = some v ∧ Denotes segs ts ps
  | _, _, _ => False

/-- `ts` is at least as greedy as `ts'`: at the first piece where they differ, `ts` has the longer text -/
def Greedier : List (List Nat) → List (List Nat) → Prop
  | t :: ts, t' :: ts' => t'.length < t.length ∨ (t' = t ∧ Greedier ts ts')
  | _, _ => True

private theorem flatten_cons_eq {t : List Nat} {ts : List (List Nat)} {p : List Nat} (h : (t :: ts).flatten = p) :
    p.take t.length = t ∧ p.drop t.length = ts.flatten ∧ t.length ≤ p.length := by
  subst h; simp

/-- The one induction over the pattern: a result of `matchSegs` is a valid split of the whole path and the greediest
one, and `none` means no valid split exists.  `matchSegs_split`, `_sound_complete` and `_greedy` are its parts. -/
theorem matchSegs_spec (segs : List Seg) (p : List Nat) :
    (∀ ts, matchSegs segs p = some ts → ShapeValid segs ts ∧ ts.flatten = p ∧
      ∀ ts', ShapeValid segs ts' → ts'.flatten = p → Greedier ts ts') ∧
    (matchSegs segs p = none → ∀ ts', ShapeValid segs ts' → ts'.flatten ≠ p) := by
  induction segs generalizing p with
  | nil =>
    constructor
    · intro ts h
      simp only [matchSegs, Option.ite_none_right_eq_some, Option.some.injEq, List.isEmpty_iff] at h
      obtain ⟨rfl, rfl⟩ := h
      simp [ShapeValid, Greedier]
    · intro h ts' hv hf
      cases ts' with
      | nil => simp [matchSegs, ← hf] at h
      | cons _ _ => exact hv
  | cons seg rest ih =>
    cases seg with
    | lit s =>
      constructor
      · intro ts h
        simp only [matchSegs, Option.ite_none_right_eq_some, Option.map_eq_some_iff] at h
        obtain ⟨hpre, ts₁, hm, rfl⟩ := h
        obtain ⟨hv, hf, hg⟩ := (ih _).1 ts₁ hm
        have hp := List.prefix_iff_eq_append.mp (List.isPrefixOf_iff_prefix.mp hpre)
        refine ⟨⟨rfl, hv⟩, by rw [List.flatten_cons, hf, hp], ?_⟩
        rintro (_ | ⟨t', ts₁'⟩) hv' hf'
        · exact hv'.elim
        · obtain ⟨rfl, hv'⟩ := hv'
          exact Or.inr ⟨rfl, hg _ hv' (flatten_cons_eq hf').2.1.symm⟩
      · rintro h (_ | ⟨t', ts₁'⟩) hv hf
        · exact hv
        · obtain ⟨rfl, hv⟩ := hv
          obtain ⟨-, hd, -⟩ := flatten_cons_eq hf
          have hpre : t'.isPrefixOf p = true := by
            rw [List.isPrefixOf_iff_prefix, ← hf]; exact List.prefix_append _ _
          simp only [matchSegs, hpre, if_true, hd, Option.map_eq_none_iff] at h
          exact (ih _).2 h _ hv rfl
    | param n c =>
      constructor
      · intro ts h
        obtain ⟨k, ts₁, rfl, hk, hs, hm, hmax⟩ := matchSegs_param_some n c rest p ts h
        obtain ⟨hv, hf, hg⟩ := (ih _).1 ts₁ hm
        refine ⟨⟨hs, hv⟩, by rw [List.flatten_cons, hf, List.take_append_drop], ?_⟩
        rintro (_ | ⟨t', ts₁'⟩) hv' hf'
        · exact hv'.elim
        · obtain ⟨hs', hv'⟩ := hv'
          obtain ⟨ht, hd, hle⟩ := flatten_cons_eq hf'
          -- the other split's first text is an accepted prefix after which the rest matches:
          -- it is not longer than the one taken, and where it is as long the rests are compared
          rcases Nat.lt_trichotomy t'.length k with hlt | rfl | hgt
          · exact Or.inl (by rw [List.length_take]; omega)
          · exact Or.inr ⟨ht.symm, hg _ hv' hd.symm⟩
          · exact absurd hd.symm ((ih _).2 (hmax _ hgt hle (by rw [ht]; exact hs')) _ hv')
      · rintro h (_ | ⟨t', ts₁'⟩) hv hf
        · exact hv
        · obtain ⟨ht, hd, hle⟩ := flatten_cons_eq hf
          exact (ih _).2 (matchSegs_param_none n c rest p h _ hle (by rw [ht]; exact hv.1)) _ hv.2 hd.symm

/-- **C08.1a** what `fullmatch` returns is a split of the whole path: literals
verbatim, each placeholder text in the language of its regex. -/
theorem matchSegs_split (segs : List Seg) (p : List Nat) (ts : List (List Nat))
    (h : matchSegs segs p = some ts) : ShapeValid segs ts ∧ ts.flatten = p :=
  let ⟨hv, hf, _⟩ := (matchSegs_spec segs p).1 ts h
  ⟨hv, hf⟩

/-- **C08.1** a route's pattern matches a path exactly when the *whole* path can be cut into the route's
pieces as in C08.1a. -/
theorem matchSegs_sound_complete (segs : List Seg) (p : List Nat) :
    (matchSegs segs p).isSome = true ↔ ∃ ts, ShapeValid segs ts ∧ ts.flatten = p := by
  constructor
  · intro h
    obtain ⟨ts, hts⟩ := Option.isSome_iff_exists.mp h
    exact ⟨ts, matchSegs_split segs p ts hts⟩
  · rintro ⟨ts, hv, hf⟩
    exact Option.isSome_iff_ne_none.mpr fun h => (matchSegs_spec segs p).2 h ts hv hf

/-- **C08.1b** the split order of a greedy backtracking regex: among all valid splits the returned one is
the greediest. -/
theorem matchSegs_greedy (segs : List Seg) (p : List Nat) (ts ts' : List (List Nat))
    (h : matchSegs segs p = some ts) (hv : ShapeValid segs ts') (hf : ts'.flatten = p) :
    Greedier ts ts' :=
  ((matchSegs_spec segs p).1 ts h).2.2 ts' hv hf

/-- "/x/{n:int}{rest}" compiled by the model of compile_path / Route.__init__ -/
def exRoute : Route := [.lit [47, 120, 47], .param [110] .int, .param [114, 101, 115, 116] .str]

def okOf : Except CompileError Route → Option Route
  | .ok r => some r
  | .error _ => none

def errOf : Except CompileError Route → Option CompileError
  | .ok _ => none
  | .error e => some e

example : okOf (compilePath [47,120,47,123,110,58,105,110,116,125,123,114,101,115,116,125]) = some exRoute := by
  decide +kernel
-- "/a.b" is one literal; "/{n:integer}" and "/{s}/{s}" and "/{" cannot be constructed
example : okOf (compilePath [47, 97, 46, 98]) = some [.lit [47, 97, 46, 98]] := by decide +kernel
example : errOf (compilePath [47,123,110,58,105,110,116,101,103,101,114,125]) = some .unknownConvertor := by
  decide +kernel
example : errOf (compilePath [47,123,115,125,47,123,115,125]) = some .duplicateName := by decide +kernel
example : errOf (compilePath [47, 123]) = some .badFormat := by decide +kernel

-- "/x/12ab": the int placeholder takes the longest digit run; a less greedy split is valid too
example : matchSegs exRoute [47,120,47,49,50,97,98] = some [[47,120,47], [49,50], [97,98]] := by
  decide +kernel
example : ShapeValid exRoute [[47,120,47], [49], [50,97,98]] := ⟨rfl, by decide, by decide, trivial⟩
example : Greedier [[47,120,47], [49,50], [97,98]] [[47,120,47], [49], [50,97,98]] := by
  simp [Greedier]
example : ∃ ts, ShapeValid exRoute ts ∧ ts.flatten = [47,120,47,49,50,97,98] :=
  ⟨[[47,120,47], [49], [50,97,98]], ⟨rfl, by decide, by decide, trivial⟩, by decide⟩
-- a near miss ("/x/ab": no digit)
example : matchSegs exRoute [47,120,47,97,98] = none := by decide +kernel

theorem valid_iff (segs : List Seg) (ts : List (List Nat)) :
    Valid segs ts ↔ ShapeValid segs ts ∧ (convertAll segs ts).isSome = true := by
  fun_induction ShapeValid segs ts with
  | case1 => simp [Valid, convertAll]
  | case2 s segs t ts ih => simp [Valid, convertAll, ih, and_assoc]
  | case3 n c segs t ts ih =>
    simp only [Valid, convertAll, accepts, Bool.and_eq_true, ih]
    cases toPython c t <;> simp [and_assoc]
  | case4 => simp [Valid]

private theorem convertAll_denotes (segs : List Seg) (ts : List (List Nat)) (ps : Params)
    (hv : ShapeValid segs ts) (h : convertAll segs ts = some ps) : Denotes segs ts ps := by
  fun_induction ShapeValid segs ts generalizing ps with
  | case1 => simp_all [convertAll, Denotes]
  | case2 s segs t ts ih => exact ih ps hv.2 h
  | case3 n c segs t ts ih =>
    simp only [convertAll] at h
    split at h
    · cases h
    · rename_i v hp
      obtain ⟨ps', hr, rfl⟩ := Option.map_eq_some_iff.mp h
      exact ⟨rfl, hp, ih ps' hv.2 hr⟩
  | case4 => exact hv.elim

/-- **C08.2** a route that matches does so along a valid split of the entire path (the greedy one,
`matchSegs_greedy`); the path parameters are the placeholders' names with the values the placeholder
texts denote, in order. -/
theorem routeMatches_sound (segs : Route) (p : List Nat) (ps : Params)
    (h : routeMatches segs p = some ps) :
    ∃ ts, matchSegs segs p = some ts ∧ Valid segs ts ∧ ts.flatten = p ∧ Denotes segs ts ps := by
  simp only [routeMatches] at h
  split at h
  · cases h
  · rename_i ts hm
    obtain ⟨hs, hf⟩ := matchSegs_split segs p ts hm
    exact ⟨ts, hm, (valid_iff segs ts).mpr ⟨hs, by rw [h]; rfl⟩, hf, convertAll_denotes segs ts ps hs h⟩

example : routeMatches exRoute [47,120,47,49,50,97,98] = some [([110], .int 12), ([114,101,115,116], .text [97,98])] := by
  decide +kernel

/-- **C08.3 (partial)** completeness: if some split of the entire path is valid, the route matches —
provided every split the regexes admit is convertible (so in particular the greedy one).  Without the
proviso it is false (`routeMatches_complete_witness`): the regex engine commits to its greediest split, and
when `to_python` rejects a text of that split `Route.matches` answers "no match" without trying another.
The proviso excludes the two residual classes `int-digit-limit` and `greedy-split-not-convertible` of
findings/C08.json. -/
theorem routeMatches_complete_partial (segs : Route) (p : List Nat)
    (hconv : ∀ ts, ShapeValid segs ts → ts.flatten = p → Valid segs ts) :
    (routeMatches segs p).isSome = true ↔ ∃ ts, Valid segs ts ∧ ts.flatten = p := by
  constructor
  · intro h
    obtain ⟨ps, hps⟩ := Option.isSome_iff_exists.mp h
    obtain ⟨ts, _, hv, hf, _⟩ := routeMatches_sound segs p ps hps
    exact ⟨ts, hv, hf⟩
  · rintro ⟨ts, hv, hf⟩
    have hsome := (matchSegs_sound_complete segs p).mpr ⟨ts, ((valid_iff segs ts).mp hv).1, hf⟩
    obtain ⟨ts0, hts0⟩ := Option.isSome_iff_exists.mp hsome
    obtain ⟨hs0, hf0⟩ := matchSegs_split segs p ts0 hts0
    simp only [routeMatches, hts0]
    exact ((valid_iff segs ts0).mp (hconv ts0 hs0 hf0)).2

/-- no conversion can fail on this path -/
def NoFail (p : List Nat) : Seg → Prop
  | .param _ .date => False
  | .param _ .int => p.length ≤ maxIntDigits
  | _ => True

private theorem noFail_valid (p : List Nat) (segs : List Seg) (ts : List (List Nat))
    (hs : ShapeValid segs ts) (hlen : ∀ t ∈ ts, t.length ≤ p.length)
    (hn : ∀ seg ∈ segs, NoFail p seg) : Valid segs ts := by
  fun_induction ShapeValid segs ts with
  | case1 => trivial
  | case2 s segs t ts ih =>
    exact ⟨hs.1, ih hs.2 (fun t' h => hlen t' (.tail _ h)) (fun seg h => hn seg (.tail _ h))⟩
  | case3 n c segs t ts ih =>
    refine ⟨?_, ih hs.2 (fun t' h => hlen t' (.tail _ h)) (fun seg h => hn seg (.tail _ h))⟩
    rw [accepts, hs.1, Bool.true_and, toPython_isSome_iff]
    constructor
    · rintro rfl; exact Nat.le_trans (hlen t (.head _)) (hn _ (.head _))
    · rintro rfl; exact (hn _ (.head _)).elim
  | case4 => exact hs.elim

/-- **C08.3'** full-strength soundness and completeness for every route without a
`date` placeholder (and, with an `int` placeholder, every path of at most 4300
characters): the route matches iff the entire path splits validly. -/
theorem routeMatches_complete_of_total (segs : Route) (p : List Nat)
    (hn : ∀ seg ∈ segs, NoFail p seg) :
    (routeMatches segs p).isSome = true ↔ ∃ ts, Valid segs ts ∧ ts.flatten = p := by
  apply routeMatches_complete_partial
  intro ts hs hf
  refine noFail_valid p segs ts hs (fun t ht => ?_) hn
  rw [← hf]
  exact (List.sublist_flatten_of_mem ht).length_le

example : ∀ seg ∈ exRoute, NoFail [47,120,47,49,50,97,98] seg := by
  intro seg h
  simp only [exRoute, List.mem_cons, List.not_mem_nil, or_false] at h
  rcases h with rfl | rfl | rfl <;> simp [NoFail, maxIntDigits]

/-- the route `{x:any}{t:date}{y:any}`, the path `2021-01-012021-13-01` and a valid split of it -/
def witnessRoute : Route := [.param [120] .any, .param [116] .date, .param [121] .any]
def witnessPath : List Nat := [50,48,50,49,45,48,49,45,48,49, 50,48,50,49,45,49,51,45,48,49]
def witnessSplit : List (List Nat) := [[], [50,48,50,49,45,48,49,45,48,49], [50,48,50,49,45,49,51,45,48,49]]

/-- **C08.3 witness** a valid split of the whole path exists, yet the route does not match: the greedy
split puts the impossible date `2021-13-01` under the `date` placeholder. -/
theorem routeMatches_complete_witness :
    Valid witnessRoute witnessSplit ∧ witnessSplit.flatten = witnessPath ∧
      routeMatches witnessRoute witnessPath = none :=
  ⟨⟨by decide, by decide, by decide, trivial⟩, by decide, by decide +kernel⟩

private theorem searchFrom_spec (i : Nat) (rs : List Route) (p : List Nat) (j : Nat) (ps : Params) :
    searchFrom i rs p = some (j, ps) ↔
      ∃ k, j = i + k ∧ (∃ r, rs[k]? = some r ∧ routeMatches r p = some ps) ∧
        ∀ k' < k, ∀ r, rs[k']? = some r → routeMatches r p = none := by
  induction rs generalizing i with
  | nil => simp [searchFrom]
  | cons r rs ih =>
    simp only [searchFrom]
    cases hr : routeMatches r p with
    | some ps0 =>
      -- only the head qualifies: it matches, so nothing later has only non-matching routes before it
      constructor
      · rintro ⟨⟩
        exact ⟨0, rfl, ⟨r, rfl, hr⟩, fun _ h => absurd h (Nat.not_lt_zero _)⟩
      · rintro ⟨_ | k, rfl, ⟨r', hr', hm⟩, hb⟩
        · cases hr'; rw [hr] at hm; cases hm; rfl
        · cases hr.symm.trans (hb 0 (Nat.succ_pos k) r rfl)
    | none =>
      -- the head does not qualify; the rest is the table shifted by one
      rw [ih (i + 1)]
      constructor
      · rintro ⟨k, rfl, hk, hb⟩
        refine ⟨k + 1, by omega, hk, ?_⟩
        rintro (_ | k') h r' hr'
        · cases hr'; exact hr
        · exact hb k' (by omega) r' hr'
      · rintro ⟨_ | k, rfl, ⟨r', hr', hm⟩, hb⟩
        · cases hr'; rw [hr] at hm; cases hm
        · exact ⟨k, by omega, ⟨r', hr', hm⟩, fun k' h => hb (k' + 1) (by omega)⟩

/-- **C08.4** first match: `search` returns route `i` with parameters `ps` exactly
when route `i` matches the path with those parameters and no earlier route
(in declaration order) matches it. -/
theorem search_first_match (rs : List Route) (p : List Nat) (i : Nat) (ps : Params) :
    search rs p = some (i, ps) ↔
      (∃ r, rs[i]? = some r ∧ routeMatches r p = some ps) ∧
        ∀ j < i, ∀ r, rs[j]? = some r → routeMatches r p = none := by
  unfold search
  rw [searchFrom_spec]
  simp only [Nat.zero_add, exists_eq_left']

private theorem searchFrom_none (i : Nat) (rs : List Route) (p : List Nat) :
    searchFrom i rs p = none ↔ ∀ r ∈ rs, routeMatches r p = none := by
  induction rs generalizing i with
  | nil => simp [searchFrom]
  | cons r rs ih =>
    simp only [searchFrom]
    cases hr : routeMatches r p with
    | some ps0 => simp [hr]
    | none => simp [hr, ih (i + 1)]

/-- **C08.5** `search` finds nothing exactly when no route of the table matches the path. -/
theorem search_none_iff (rs : List Route) (p : List Nat) :
    search rs p = none ↔ ∀ r ∈ rs, routeMatches r p = none :=
  searchFrom_none 0 rs p

/-- **C08.6 (WSGI)** the router calls the endpoint of the first matching route with
exactly the converted parameters as `PATH_PARAMS`, and answers 404 iff no route matches. -/
theorem wsgi_dispatch (rs : List Route) (p : List Nat) :
    (∀ i ps, wsgiCall rs p = .endpoint i ps ↔ search rs p = some (i, ps)) ∧
    (wsgiCall rs p = .notFound ↔ ∀ r ∈ rs, routeMatches r p = none) := by
  rw [← search_none_iff]
  unfold wsgiCall
  cases search rs p with
  | none => simp
  | some x => obtain ⟨j, qs⟩ := x; simp

/-- **C08.6'** both interfaces dispatch identically. -/
theorem wsgi_asgi_agree (rs : List Route) (p : List Nat) : wsgiCall rs p = asgiCall rs p := rfl

/-- **C08.6 (ASGI)** the same for `scope["path_params"]`. -/
theorem asgi_dispatch (rs : List Route) (p : List Nat) :
    (∀ i ps, asgiCall rs p = .endpoint i ps ↔ search rs p = some (i, ps)) ∧
    (asgiCall rs p = .notFound ↔ ∀ r ∈ rs, routeMatches r p = none) :=
  wsgi_asgi_agree rs p ▸ wsgi_dispatch rs p

/-- "/x/{n:int}{rest}", "/{a}/{b}", "/{p:any}" — overlapping routes -/
def exTable : List Route :=
  [exRoute, [.lit [47], .param [97] .str, .lit [47], .param [98] .str], [.lit [47], .param [112] .any]]

-- "/x/12ab" matches all three, the first wins; "/x/ab" skips route 0; "/q" only the last; 404: "x"
example : search exTable [47,120,47,49,50,97,98] =
    some (0, [([110], .int 12), ([114,101,115,116], .text [97,98])]) := by decide +kernel
example : search exTable [47,120,47,97,98] = some (1, [([97], .text [120]), ([98], .text [97,98])]) := by
  decide +kernel
example : search exTable [47,113] = some (2, [([112], .text [113])]) := by decide +kernel
example : wsgiCall exTable [120] = .notFound ∧ asgiCall exTable [120] = .notFound := by decide +kernel
example : wsgiCall exTable [47,120,47,97,98] = .endpoint 1 [([97], .text [120]), ([98], .text [97,98])] := by
  decide +kernel

/-- "an equal value": numeric equality for decimals (`Decimal("1.50") == Decimal("1.5")`),
identity for the other types -/
def Val.eqv : Val → Val → Prop
  | .dec c e, .dec c' e' => c * 10 ^ e' = c' * 10 ^ e
  | a, b => a = b

/-- **C08.7** round trip, for every type and every text its placeholder accepts:
converting the value back to text gives a string the same placeholder accepts
(regex and conversion) and that converts to an equal value. -/
theorem convert_roundtrip (c : Conv) (t : List Nat) (v : Val)
    (hs : shape c t = true) (hv : toPython c t = some v) :
    ∃ s v', toStr c v = some s ∧ accepts c s = true ∧ toPython c s = some v' ∧ v'.eqv v := by
  -- except for `int` and `decimal`, `to_string` gives the text back as it was
  have same (h : toStr c v = some t) :
      ∃ s v', toStr c v = some s ∧ accepts c s = true ∧ toPython c s = some v' ∧ v'.eqv v :=
    ⟨t, v, h, by simp [accepts, hs, hv], hv, by cases v <;> rfl⟩
  cases c with
  | str =>
    cases hv
    apply same
    simpa [toStr, shape, List.all_bne'] using hs
  | any =>
    cases hv
    exact same rfl
  | int =>
    simp only [toPython] at hv
    split at hv
    · rename_i hl
      cases hv
      obtain ⟨h1, h2, h3⟩ := int_roundtrip t hs hl
      exact ⟨_, _, h1, by simp [accepts, h2, h3], h3, rfl⟩
    · cases hv
  | decimal =>
    -- which coefficient and exponent `to_python` read off `t` does not matter
    obtain ⟨c, e, rfl⟩ : ∃ c e, .dec c e = v := ⟨_, _, Option.some.inj hv⟩
    obtain ⟨h1, c', e', h2, h3⟩ := decimal_roundtrip c e
    exact ⟨_, _, rfl, by rw [accepts, h1, h2]; rfl, h2, h3⟩
  | uuid =>
    obtain ⟨h, hl, hx, rfl⟩ := (shape_uuid_iff t).mp hs
    rw [toPython_uuidString h hl hx] at hv
    cases hv
    exact same rfl
  | date =>
    obtain ⟨y, m, d, hy, hm, hd, rfl⟩ := (shape_date_iff t).mp hs
    rw [toPython_dateString y m d hy hm hd] at hv
    split at hv
    · cases hv
      exact same rfl
    · cases hv

-- "1.50" ↦ 150·10⁻² ↦ "1.5" ↦ 15·10⁻¹;  "100" ↦ "100";  "007" ↦ 7 ↦ "7"
example : toPython .decimal [49,46,53,48] = some (.dec 150 2) ∧ toStr .decimal (.dec 150 2) = some [49,46,53] ∧
    toPython .decimal [49,46,53] = some (.dec 15 1) ∧ (Val.dec 15 1).eqv (.dec 150 2) :=
  ⟨by decide +kernel, by decide +kernel, by decide +kernel, by simp [Val.eqv]⟩
example : toStr .decimal (.dec 100 0) = some [49,48,48] ∧ toStr .decimal (.dec 0 0) = some [48] ∧
    toStr .decimal (.dec 1 7) = some [48,46,48,48,48,48,48,48,49] := by decide +kernel
example : toPython .int [48,48,55] = some (.int 7) ∧ toStr .int (.int 7) = some [55] := by decide +kernel
example : toStr .date (.date 2021 3 7) = some [50,48,50,49,45,48,51,45,48,55] := by decide +kernel
/-- "90478484-0988-45fc-91fe-757d90136892" -/
def exUuid : List Nat :=
  [57,48,52,55,56,52,56,52,45,48,57,56,56,45,52,53,102,99,45,57,49,102,101,45,55,53,55,100,57,48,49,51,54,56,57,50]
example : shape .uuid exUuid = true ∧
    (toPython .uuid exUuid).bind (toStr .uuid) = some exUuid := by decide +kernel

/-- **C08.8 (partial)** `to_python` is total on the regex language of its type, except
for date-shaped texts that are no calendar date and int texts of more than 4300
digits (there `Route.matches` answers "no match"). -/
theorem convert_total_partial (c : Conv) (t : List Nat) (hs : shape c t = true)
    (hint : c = .int → t.length ≤ maxIntDigits)
    (hdate : c = .date → validDate (digitsVal (t.take 4)) (digitsVal ((t.drop 5).take 2))
      (digitsVal ((t.drop 8).take 2)) = true) :
    (toPython c t).isSome = true :=
  (toPython_isSome_iff c t).mpr ⟨hint, hdate⟩

/-- "2021-13-45" -/
def impossibleDate : List Nat := [50, 48, 50, 49, 45, 49, 51, 45, 52, 53]

/-- **C08.8 witness** both hypotheses of `convert_total_partial` are needed. -/
theorem convert_total_witness :
    (shape .date impossibleDate = true ∧ toPython .date impossibleDate = none) ∧
    (shape .int (List.replicate 4301 49) = true ∧ toPython .int (List.replicate 4301 49) = none) := by
  refine ⟨by decide, (shape_int_iff _).mpr ⟨?_, fun c hc => ?_⟩, ?_⟩
  · rw [ne_eq, List.replicate_eq_nil_iff]; decide
  · rw [List.mem_replicate] at hc; rw [hc.2]; rfl
  · rw [toPython, List.length_replicate]; rfl

-- calendar validity, the hypothesis `hdate`
example : validDate 2024 2 29 = true ∧ validDate 2023 2 29 = false ∧ validDate 1900 2 29 = false ∧
    validDate 2000 2 29 = true ∧ validDate 0 1 1 = false := by decide
-- for `routeMatches_complete_partial`: a date route; the only split of the first path is a calendar
-- date (`hconv` holds), that of the second is not
example : routeMatches [.lit [47], .param [100] .date] [47,50,48,50,49,45,48,51,45,48,55] =
    some [([100], .date 2021 3 7)] := by decide +kernel
example : routeMatches [.lit [47], .param [100] .date] (47 :: impossibleDate) = none := by decide +kernel

/-! ### The recognisers are the languages of the property's prose -/

/-- **str**: non-empty, without `/` -/
theorem lang_str (t : List Nat) :
    (shape .str t = true ↔ t ≠ [] ∧ ∀ c ∈ t, c ≠ 47) ∧ accepts .str t = shape .str t := by
  refine ⟨?_, by simp [accepts, toPython]⟩
  simp [shape, cSlash, List.all_eq_true]

/-- **int**: the regex accepts exactly the non-empty strings of ASCII digits (code
points 48..57 — no other Unicode digit); the placeholder accepts those of at most
4300 digits. -/
theorem lang_int (t : List Nat) :
    (shape .int t = true ↔ t ≠ [] ∧ ∀ c ∈ t, 48 ≤ c ∧ c ≤ 57) ∧
    (accepts .int t = true ↔ (t ≠ [] ∧ ∀ c ∈ t, 48 ≤ c ∧ c ≤ 57) ∧ t.length ≤ maxIntDigits) := by
  have h1 : shape .int t = true ↔ t ≠ [] ∧ ∀ c ∈ t, 48 ≤ c ∧ c ≤ 57 := by
    rw [shape_int_iff]
    simp only [Digits, isDigit_iff]
  refine ⟨h1, ?_⟩
  simp [accepts, h1, toPython_isSome_iff]

/-- **int witness** a string of ASCII digits that the placeholder does not accept
(finding `int-digit-limit`): the bound in `lang_int` is needed. -/
theorem lang_int_witness :
    (∀ c ∈ List.replicate 4301 49, 48 ≤ c ∧ c ≤ 57) ∧ accepts .int (List.replicate 4301 49) = false := by
  refine ⟨fun c hc => by rw [List.mem_replicate] at hc; omega, ?_⟩
  rw [← Bool.not_eq_true, (lang_int _).2, List.length_replicate]
  exact fun h => absurd h.2 (by decide)

/-- **decimal**: digits with an optional fraction (`.` followed by digits); every such text is accepted -/
theorem lang_decimal (t : List Nat) :
    (shape .decimal t = true ↔
      ∃ a, Digits a ∧ (t = a ∨ ∃ f, Digits f ∧ t = a ++ 46 :: f)) ∧
    accepts .decimal t = shape .decimal t :=
  ⟨shape_decimal_iff t, by simp [accepts, toPython]⟩

/-- **uuid**: exactly the canonical lower-case form, i.e. the strings `str(u)` of the
128-bit values `u` (32 hex digit values printed 8-4-4-4-12 with `0-9a-f`) -/
theorem lang_uuid (t : List Nat) :
    (shape .uuid t = true ↔ ∃ h, h.length = 32 ∧ (∀ x ∈ h, x < 16) ∧ t = uuidString h) ∧
    accepts .uuid t = shape .uuid t :=
  ⟨shape_uuid_iff t, by simp [accepts, toPython]⟩

/-- **date**: the regex accepts `dddd-dd-dd`; the placeholder accepts exactly the
calendar dates written `YYYY-MM-DD` (zero padded, year 1..9999). -/
theorem lang_date (t : List Nat) :
    (shape .date t = true ↔ ∃ y m d, y < 10000 ∧ m < 100 ∧ d < 100 ∧ t = dateString y m d) ∧
    (accepts .date t = true ↔ ∃ y m d, validDate y m d = true ∧ t = dateString y m d) := by
  refine ⟨shape_date_iff t, ?_⟩
  simp only [accepts, Bool.and_eq_true, shape_date_iff]
  constructor
  · rintro ⟨⟨y, m, d, hy, hm, hd, rfl⟩, hp⟩
    rw [toPython_dateString y m d hy hm hd] at hp
    split at hp
    · exact ⟨y, m, d, ‹_›, rfl⟩
    · cases hp
  · rintro ⟨y, m, d, hv, rfl⟩
    obtain ⟨hy, hm, hd⟩ := validDate_bounds y m d hv
    exact ⟨⟨y, m, d, hy, hm, hd, rfl⟩, by rw [toPython_dateString y m d hy hm hd, if_pos hv]; rfl⟩

/-- **any**: anything (line breaks and `/` included) -/
theorem lang_any (t : List Nat) : shape .any t = true ∧ accepts .any t = true := by
  simp [accepts, shape, toPython]

/-- **C08.9** the recognisers, `paramAt` and `matchSegs`/`routeMatches` were written for
exactly these regex sources and this shape of `Route.__init__` / `Route.matches` /
`BaseRouter.search` (all regenerated from the repository on every run). -/
theorem source_pinned :
    Gen.Router.convertorTable =
      [("str", "[^/]+"), ("int", "[0-9]+"), ("decimal", "[0-9]+(\\.[0-9]+)?"),
       ("uuid", "[0-9a-f]{8}-[0-9a-f]{4}-[0-9a-f]{4}-[0-9a-f]{4}-[0-9a-f]{12}"),
       ("date", "[0-9]{4}-[0-9]{2}-[0-9]{2}"), ("any", "(?s:.*)")] ∧
    convTable.map (·.2) = [some .str, some .int, some .decimal, some .uuid, some .date, some .any] ∧
    Gen.Router.paramRegex = "{([^\\d]\\w*)(:\\w+)?}" ∧
    Gen.Router.defaultType = "str" ∧
    Gen.Router.literalsEscaped = true ∧
    Gen.Router.compileFlagArgs = 0 ∧
    Gen.Router.matchMethod = "fullmatch" ∧
    Gen.Router.noMatchExceptions = ["ValueError", "InvalidOperation"] ∧
    Gen.Router.searchReturnsInLoop = true :=
  ⟨rfl, by decide, rfl, rfl, rfl, rfl, rfl, rfl, rfl⟩

-- Unicode digits ("٣" U+0663, "３" U+FF13) and a trailing line break are outside `int`
example : shape .int [1635] = false ∧ shape .int [65299] = false ∧ shape .int [51, 10] = false ∧
    shape .int [51] = true := by decide
example : shape .decimal [49, 120, 50] = false ∧ shape .decimal [49, 46] = false ∧
    shape .decimal [49, 46, 50] = true := by decide
example : shape .any [97, 10, 47] = true ∧ shape .str [97, 10] = true ∧ shape .str [97, 47] = false := by decide

end Baize.Router
