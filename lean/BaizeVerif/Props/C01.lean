/-
C01 — multipart decoding is exact and independent of how the body is chunked.

The vocabulary of the form level (`Part`, `encode`, `PartOK`, `FormOK`, `itemOf`, `expected`) is in
`Lemmas/MultipartForm.lean` / `Lemmas/MultipartHelper.lean`; that of the header layer (C01.5, C01.6)
is here: a part given by name, filename, further header lines and content, once for latin-1, where
bytes are code points, and once for utf-8 (names ending in `U`, and `PartSpec`).

Quantifiers: every boundary without CR/LF, every preamble that does not contain
`--boundary`, every list of parts (any number) whose contents are arbitrary
bytes free of `--boundary` (CR, LF, dashes and partial boundary prefixes
included) and whose header blocks are well-formed, every epilogue, every limit
configuration, and EVERY list of chunks whose concatenation is the encoded body
(one-byte chunks and empty chunks included).
-/
import BaizeVerif.Lemmas.MultipartHelper
import BaizeVerif.Lemmas.MultipartHeaders
import BaizeVerif.Lemmas.Utf8

namespace Baize.Multipart

/-- tie to the source: the explicit scanners were written for exactly these patterns -/
theorem source_pinned :
    Gen.Multipart.lineBreak = "(?:\r\n|\n|\r)" ∧
    Gen.Multipart.blankLineRe = "(?:\r\n\r\n|\r\r|\n\n)" ∧
    Gen.Multipart.headerContinuationRe = "%s[ \t] % LINE_BREAK" ∧
    Gen.Multipart.preambleReTemplate =
      "%s?--%s(--[^\\S\\n\\r]*%s?|[^\\S\\n\\r]*%s) % (LINE_BREAK, re.escape(boundary), LINE_BREAK, LINE_BREAK)" ∧
    Gen.Multipart.boundaryReTemplate =
      "%s--%s(--[^\\S\\n\\r]*%s?|[^\\S\\n\\r]*%s) % (LINE_BREAK, re.escape(boundary), LINE_BREAK, LINE_BREAK)" :=
  ⟨rfl, rfl, rfl, rfl, rfl⟩

private theorem inv_init (b pre epi : Bytes) (parts : List Part) (cfg : Cfg) (cs : Charset) :
    Inv b pre epi parts cfg cs [] .pre {} (encode b pre parts epi) := by
  refine ⟨⟨rfl, rfl, Nat.zero_le _, ?_⟩, rfl, rfl, by simp, rfl, rfl, rfl⟩
  unfold memExceeded
  split <;> simp

/-- **C01.1 — exact for every chunking.**  Whatever way the encoded body is cut
into chunks, the stream helper (the same function models `parse_stream` and
`parse_async_stream`) returns exactly the encoded parts in order — or 413 exactly
when a limit is exceeded (see C15). -/
theorem parseStream_exact (b pre epi : Bytes) (parts : List Part) (cfg : Cfg) (cs : Charset)
    (hform : FormOK b pre cs parts) (chunks : List Bytes)
    (h : chunks.flatten = encode b pre parts epi) :
    parseStream b cfg cs chunks = expected cfg cs parts := by
  unfold parseStream
  apply feedAll_spec hform chunks {} [] .pre
  · rw [h]; exact inv_init b pre epi parts cfg cs
  · rfl
  · intro hc
    exfalso
    rw [hc] at h
    have := congrArg List.length h
    simp [encode, marker] at this

/-- **C01.2 — chunking independence.**  Any two ways of splitting the same
encoded body give the same result. -/
theorem chunking_independent (b pre epi : Bytes) (parts : List Part) (cfg : Cfg) (cs : Charset)
    (hform : FormOK b pre cs parts) (chunks₁ chunks₂ : List Bytes)
    (h₁ : chunks₁.flatten = encode b pre parts epi) (h₂ : chunks₂.flatten = chunks₁.flatten) :
    parseStream b cfg cs chunks₁ = parseStream b cfg cs chunks₂ := by
  rw [parseStream_exact b pre epi parts cfg cs hform chunks₁ h₁,
    parseStream_exact b pre epi parts cfg cs hform chunks₂ (h₂.trans h₁)]

/-- **C01.3 — the decoded items.**  Within the limits the result is the list of
the parts' items: for a field its name and the decoded text of its content, for a
file its field name, filename, part headers and byte-for-byte content. -/
theorem parseStream_items (b pre epi : Bytes) (parts : List Part) (cfg : Cfg) (cs : Charset)
    (hform : FormOK b pre cs parts) (chunks : List Bytes)
    (h : chunks.flatten = encode b pre parts epi)
    (hparts : parts.length ≤ cfg.maxParts) (hmem : memExceeded cfg (fieldBytes parts) = false) :
    parseStream b cfg cs chunks = .ok (parts.filterMap (itemOf cs)) := by
  rw [parseStream_exact b pre epi parts cfg cs hform chunks h, expected_ok hparts hmem]

/-- **C01.4 — the form accessors.**  `Request.form` on WSGI reads the chunks as
they come; on ASGI empty message bodies are skipped and one empty chunk is
appended.  Both see the same concatenation, hence the same result as the helper.
The code lists in `hb` and `hcs` spell "boundary" and "charset"; for a content type
written `multipart/form-data; boundary="…"`, `hct` is what `parseHeaderValue_options` concludes. -/
theorem formAccessor_exact (asgi : Bool) (contentType : List Nat) (b pre epi : Bytes) (parts : List Part)
    (cs : Charset) (opts : List (List Nat × List Nat))
    (hct : parseHeaderValue contentType = (multipartType, opts))
    (hb : lookup [98, 111, 117, 110, 100, 97, 114, 121] opts = some b)
    (hcs : (match lookup [99, 104, 97, 114, 115, 101, 116] opts with
            | some c => normCharset c | none => .utf8) = cs)
    (hform : FormOK b pre cs parts) (chunks : List Bytes)
    (h : chunks.flatten = encode b pre parts epi) :
    formAccessor asgi contentType chunks = some (expected {} cs parts) := by
  subst hcs
  unfold formAccessor
  simp only [hct, hb, ne_eq, not_true_eq_false, if_false]
  congr 1
  apply parseStream_exact b pre epi parts {} _ hform
  cases asgi with
  | false => simpa using h
  | true =>
    simp only [if_true]
    rw [← h]
    simp [List.flatten_filter_not_isEmpty]

/-! ### The header layer: what an encoder writes is what the decoder reports

First for latin-1, where bytes and code points coincide, then for utf-8 through the codec's round
trip `safeDecode_encodeUtf8`.  Both rest on `headerEvent_rendered` (`Lemmas/MultipartHeaders.lean`),
which holds for any charset: it takes the decoded text of every line as a hypothesis
(`HLineOK.decodes`). -/

/-- a further header line `k: v` of a part -/
structure ExtraOK (k v : Bytes) : Prop where
  bytesOK : LineBytesOK (k ++ 58 :: 32 :: v)
  noColon : ∀ x ∈ k, x ≠ 58
  keyStrip : stripBy isPySpace k = k
  valueStrip : stripBy isPySpace (32 :: v) = v  -- `32`: the space after the colon

/-- name / filename as the property allows them: no quote, no backslash, no line break -/
def NameOK (n : Bytes) : Prop := QuoteFree n ∧ ∀ x ∈ n, isLB x = false

/-- the header list the decoder must report -/
def renderedHeaders (N : Bytes) (F : Option Bytes) (extra : List (Bytes × Bytes)) : List (List Nat × List Nat) :=
  (cdName, cdValue N F) :: extra.map fun kv => (lowerAscii kv.1, kv.2)

/-- the extra header lines `k: v` as bytes (latin-1: bytes = code points) -/
def extraLines (extra : List (Bytes × Bytes)) : List HLine :=
  extra.map fun kv => ⟨kv.1 ++ 58 :: 32 :: kv.2, kv.1, kv.2⟩

def headersOf (N : List Nat) (F : Option (List Nat)) (extra : List HLine) : List (List Nat × List Nat) :=
  (cdName, cdValue N F) :: extra.map fun l => (lowerAscii l.key, l.value)

theorem headersOf_extraLines (N : Bytes) (F : Option Bytes) (extra : List (Bytes × Bytes)) :
    headersOf N F (extraLines extra) = renderedHeaders N F extra := by
  simp [headersOf, extraLines, renderedHeaders, List.map_map, Function.comp_def]

/-- a part as an encoder writes it: `Content-Disposition: form-data; name="N"[; filename="F"]`
then the extra header lines; it denotes a field (no filename) or a file, with the headers
`renderedHeaders N F extra` (`headersOf_extraLines`) -/
def renderedPart (N : Bytes) (F : Option Bytes) (extra : List (Bytes × Bytes)) (content : Bytes) : Part :=
  { hdr := joinLines ((cdHeaderName ++ 58 :: 32 :: cdValue N F) :: (extraLines extra).map (·.bytes)),
    content := content,
    ev := match F with
      | none => .field (some N) (headersOf N F (extraLines extra))
      | some f => .file (some N) f (headersOf N F (extraLines extra)) }

private theorem cdValue_ends (N : Bytes) (F : Option Bytes) : ∃ m, cdValue N F = 102 :: m ++ [34] := by
  cases F with
  | none => exact ⟨fdBytes.tail ++ 59 :: 32 :: (nameKey ++ 61 :: 34 :: N), by simp [cdValue, fdBytes]⟩
  | some f =>
    exact ⟨fdBytes.tail ++ 59 :: 32 :: (nameKey ++ 61 :: 34 :: N ++ 34 :: 59 :: 32 :: (filenameKey ++ 61 :: 34 :: f)),
      by simp [cdValue, fdBytes]⟩

private theorem cd_line_ok (N : Bytes) (F : Option Bytes) (hN : NameOK N) (hF : ∀ f, F = some f → NameOK f) :
    HLineOK .latin1 ⟨cdHeaderName ++ 58 :: 32 :: cdValue N F, cdHeaderName, cdValue N F⟩ := by
  obtain ⟨m, hm⟩ := cdValue_ends N F
  have hnl : ∀ x ∈ cdHeaderName ++ 58 :: 32 :: cdValue N F, isLB x = false := by
    simp only [List.forall_mem_append, List.forall_mem_cons]
    exact ⟨by decide, rfl, rfl, forall_mem_cdValue (by decide) hN.2 fun f hf => (hF f hf).2⟩
  have hshape : cdHeaderName ++ 58 :: 32 :: cdValue N F = 67 :: (cdHeaderName.tail ++ 58 :: 32 :: 102 :: m) ++ [34] := by
    rw [hm]; simp [cdHeaderName]
  refine ⟨⟨⟨67, _, 34, hshape, by decide, by decide⟩, hnl⟩, rfl, ?_, ?_, ?_⟩
  · show ∀ x ∈ cdHeaderName, x ≠ 58
    decide
  · show stripBy isPySpace cdHeaderName = cdHeaderName
    decide
  · show stripBy isPySpace (32 :: cdValue N F) = cdValue N F
    rw [stripBy_cons_space isPySpace 32 _ (by decide), hm]
    exact stripBy_ends isPySpace 102 34 m (by decide) (by decide)

/-- core of C01.5, for any charset: a block of well-formed lines is a well-formed part -/
private theorem part_ok_of_lines (b : Bytes) (cs : Charset) (N : List Nat) (F : Option (List Nat))
    (cdBytes : Bytes) (extra : List HLine) (content : Bytes) (hN : QuoteFree N)
    (hF : ∀ f, F = some f → QuoteFree f)
    (hcd : HLineOK cs ⟨cdBytes, cdHeaderName, cdValue N F⟩) (hextra : ∀ l ∈ extra, HLineOK cs l)
    (hkeys : (cdName :: extra.map (fun l => lowerAscii l.key)).Nodup)
    (hfree : Free (marker b) content) :
    PartOK b cs { hdr := joinLines (cdBytes :: extra.map (·.bytes)), content := content,
                  ev := match F with
                    | none => .field (some N) (headersOf N F extra)
                    | some f => .file (some N) f (headersOf N F extra) } := by
  refine ⟨?_, hfree, ?_, ?_⟩
  · exact hdrOK_joinLines _ _ (List.forall_mem_cons.mpr
      ⟨hcd.bytesOK, List.forall_mem_map.mpr fun l hl => (hextra l hl).bytesOK⟩)
  · show headerEvent cs (joinLines _) = _
    rw [headerEvent_rendered cs N F cdBytes extra hN hF hcd hextra hkeys]
    cases F <;> rfl
  · show IsPartEv _
    cases F <;> exact trivial

/-- **C01.5 — the header layer is exact (latin-1).**  A part written by an encoder is a
well-formed part (`PartOK`) that denotes exactly its name, filename and headers. -/
theorem rendered_part_ok (b : Bytes) (N : Bytes) (F : Option Bytes) (extra : List (Bytes × Bytes))
    (content : Bytes) (hN : NameOK N) (hF : ∀ f, F = some f → NameOK f)
    (hextra : ∀ kv ∈ extra, ExtraOK kv.1 kv.2)
    (hkeys : (cdName :: extra.map (fun kv => lowerAscii kv.1)).Nodup)
    (hfree : Free (marker b) content) :
    PartOK b .latin1 (renderedPart N F extra content) := by
  have hlines : ∀ l ∈ extraLines extra, HLineOK .latin1 l := List.forall_mem_map.mpr fun kv hkv =>
    have h := hextra kv hkv
    ⟨h.bytesOK, rfl, h.noColon, h.keyStrip, h.valueStrip⟩
  exact part_ok_of_lines b .latin1 N F _ (extraLines extra) content hN.1 (fun f hf => (hF f hf).1)
    (cd_line_ok N F hN hF) hlines (by simpa [extraLines, List.map_map, Function.comp_def] using hkeys) hfree

/-! #### the same for utf-8 (the default charset): names, filenames and header
values are texts (code points), the block holds their UTF-8 encoding -/

structure LineTextOK (t : List Nat) : Prop where
  shape : ∃ a m z, t = a :: m ++ [z] ∧ isAsciiSpace a = false ∧ isAsciiSpace z = false
  noLB : ∀ x ∈ t, isLB x = false
  scalar : ∀ x ∈ t, Scalar x

private theorem isAsciiSpace_of_big {x : Nat} (h : 128 ≤ x) : isAsciiSpace x = false := by
  simp [isAsciiSpace]; omega

private theorem isLB_of_big {x : Nat} (h : 128 ≤ x) : isLB x = false := by
  simp [isLB]; omega

theorem lineBytesOK_encode (t : List Nat) (h : LineTextOK t) : LineBytesOK (encodeUtf8 t) := by
  obtain ⟨⟨a, m, z, ht, ha, hz⟩, hnl, hsc⟩ := h
  -- a byte of an encoded code point is the code point itself, or ≥ 128 and then neither space nor line break
  have hbyte : ∀ {c x : Nat} (p : Nat → Bool), (∀ y, 128 ≤ y → p y = false) → c ∈ t → p c = false →
      x ∈ encodeCp c → p x = false := by
    intro c x p hp hc hpc hx
    rcases mem_encodeCp (hsc c hc) hx with ⟨_, rfl⟩ | hb
    · exact hpc
    · exact hp x hb
  constructor
  · obtain ⟨a', m1, he1⟩ := List.exists_cons_of_ne_nil (encodeCp_ne_nil a)
    obtain ⟨m2, z', he2⟩ : ∃ m2 z', encodeCp z = m2 ++ [z'] := by
      simpa using (List.eq_nil_or_concat (encodeCp z)).resolve_left (encodeCp_ne_nil z)
    refine ⟨a', m1 ++ encodeUtf8 m ++ m2, z', ?_, ?_, ?_⟩
    · rw [ht]; simp [encodeUtf8, List.flatMap_append, he1, he2]
    · exact hbyte isAsciiSpace (fun _ => isAsciiSpace_of_big) (by rw [ht]; simp) ha (by rw [he1]; simp)
    · exact hbyte isAsciiSpace (fun _ => isAsciiSpace_of_big) (by rw [ht]; simp) hz (by rw [he2]; simp)
  · intro x hx
    simp only [encodeUtf8, List.mem_flatMap] at hx
    obtain ⟨c, hc, hxc⟩ := hx
    exact hbyte isLB (fun _ => isLB_of_big) hc (hnl c hc) hxc

def NameOKU (n : List Nat) : Prop := NameOK n ∧ ∀ x ∈ n, Scalar x

structure ExtraOKU (k v : List Nat) : Prop where
  textOK : LineTextOK (k ++ 58 :: 32 :: v)
  noColon : ∀ x ∈ k, x ≠ 58
  keyStrip : stripBy isPySpace k = k
  valueStrip : stripBy isPySpace (32 :: v) = v

def extraLinesU (extra : List (List Nat × List Nat)) : List HLine :=
  extra.map fun kv => ⟨encodeUtf8 (kv.1 ++ 58 :: 32 :: kv.2), kv.1, kv.2⟩

theorem headersOf_extraLinesU (N : List Nat) (F : Option (List Nat)) (extra : List (List Nat × List Nat)) :
    headersOf N F (extraLinesU extra) = renderedHeaders N F extra := by
  simp [headersOf, extraLinesU, renderedHeaders, List.map_map, Function.comp_def]

/-- a part as an encoder writes it with charset utf-8 -/
def renderedPartU (N : List Nat) (F : Option (List Nat)) (extra : List (List Nat × List Nat)) (content : Bytes) :
    Part :=
  { hdr := joinLines (encodeUtf8 (cdHeaderName ++ 58 :: 32 :: cdValue N F) :: (extraLinesU extra).map (·.bytes)),
    content := content,
    ev := match F with
      | none => .field (some N) (headersOf N F (extraLinesU extra))
      | some f => .file (some N) f (headersOf N F (extraLinesU extra)) }

/-- the utf-8 line is the latin-1 line encoded: the text is the same, and it consists of scalar values -/
private theorem cd_line_ok_utf8 (N : List Nat) (F : Option (List Nat)) (hN : NameOKU N)
    (hF : ∀ f, F = some f → NameOKU f) :
    HLineOK .utf8 ⟨encodeUtf8 (cdHeaderName ++ 58 :: 32 :: cdValue N F), cdHeaderName, cdValue N F⟩ := by
  have h := cd_line_ok N F hN.1 fun f hf => (hF f hf).1
  have hsc : ∀ x ∈ cdHeaderName ++ 58 :: 32 :: cdValue N F, Scalar x := by
    simp only [List.forall_mem_append, List.forall_mem_cons]
    exact ⟨by unfold Scalar; decide, by unfold Scalar; decide, by unfold Scalar; decide,
      forall_mem_cdValue (by unfold Scalar; decide) hN.2 fun f hf => (hF f hf).2⟩
  exact ⟨lineBytesOK_encode _ ⟨h.bytesOK.1, h.bytesOK.2, hsc⟩, safeDecode_encodeUtf8 _ hsc, h.noColon, h.keyStrip,
    h.valueStrip⟩

/-- **C01.5 — the header layer is exact (utf-8).** -/
theorem rendered_part_ok_utf8 (b : Bytes) (N : List Nat) (F : Option (List Nat))
    (extra : List (List Nat × List Nat)) (content : Bytes) (hN : NameOKU N) (hF : ∀ f, F = some f → NameOKU f)
    (hextra : ∀ kv ∈ extra, ExtraOKU kv.1 kv.2)
    (hkeys : (cdName :: extra.map (fun kv => lowerAscii kv.1)).Nodup)
    (hfree : Free (marker b) content) :
    PartOK b .utf8 (renderedPartU N F extra content) := by
  have hlines : ∀ l ∈ extraLinesU extra, HLineOK .utf8 l := List.forall_mem_map.mpr fun kv hkv =>
    have h := hextra kv hkv
    ⟨lineBytesOK_encode _ h.textOK, safeDecode_encodeUtf8 _ h.textOK.scalar, h.noColon, h.keyStrip, h.valueStrip⟩
  exact part_ok_of_lines b .utf8 N F _ (extraLinesU extra) content hN.1.1 (fun f hf => (hF f hf).1.1)
    (cd_line_ok_utf8 N F hN hF) hlines (by simpa [extraLinesU, List.map_map, Function.comp_def] using hkeys) hfree

theorem itemOf_rendered_utf8_field (N : List Nat) (extra : List (List Nat × List Nat)) (text : List Nat)
    (h : ∀ c ∈ text, Scalar c) :
    itemOf .utf8 (renderedPartU N none extra (encodeUtf8 text)) = some (Item.field (some N) text) := by
  simp [itemOf, renderedPartU, safeDecode_encodeUtf8 text h]

/-- what a rendered part contributes to the result: for a field its name and its
text (latin-1: the content itself), for a file name, filename, headers and content -/
theorem itemOf_rendered (N : Bytes) (F : Option Bytes) (extra : List (Bytes × Bytes)) (content : Bytes) :
    itemOf .latin1 (renderedPart N F extra content) =
      some (match F with
        | none => Item.field (some N) content
        | some f => Item.file (some N) f (renderedHeaders N F extra) content) := by
  cases F with
  | none => rfl
  | some f => simp [itemOf, renderedPart, headersOf_extraLines]

/-- one part of a form as the property speaks of it -/
structure PartSpec where
  name : List Nat
  filename : Option (List Nat)
  extra : List (List Nat × List Nat)
  content : Bytes

structure PartSpecOK (b : Bytes) (p : PartSpec) : Prop where
  name : NameOKU p.name
  filename : ∀ f, p.filename = some f → NameOKU f
  extra : ∀ kv ∈ p.extra, ExtraOKU kv.1 kv.2
  keys : (cdName :: p.extra.map (fun kv => lowerAscii kv.1)).Nodup
  free : Free (marker b) p.content

/-- **C01.6 — the property in its own words (utf-8).**  With the quantifiers at the head of the
file and the parts given as descriptions (names / filenames without quote, backslash, line break),
the helper returns the items of exactly these parts, in order (or 413 when a limit is exceeded). -/
theorem rendered_form_exact (b pre epi : Bytes) (specs : List PartSpec) (cfg : Cfg)
    (hb : NoLB (marker b)) (hpre : Free (marker b) pre) (hspecs : ∀ p ∈ specs, PartSpecOK b p)
    (chunks : List Bytes)
    (h : chunks.flatten =
      encode b pre (specs.map fun p => renderedPartU p.name p.filename p.extra p.content) epi) :
    parseStream b cfg .utf8 chunks =
      expected cfg .utf8 (specs.map fun p => renderedPartU p.name p.filename p.extra p.content) := by
  apply parseStream_exact b pre epi _ cfg .utf8 _ chunks h
  refine ⟨hb, hpre, ?_⟩
  intro part hpart
  rw [List.mem_map] at hpart
  obtain ⟨p, hp, rfl⟩ := hpart
  have hok := hspecs p hp
  exact rendered_part_ok_utf8 b p.name p.filename p.extra p.content hok.name hok.filename hok.extra hok.keys hok.free

/-! ### Non-vacuity: a concrete form meets the hypotheses, and the theorem's
conclusion is what the model computes on a nasty chunking -/

private def bd : Bytes := [98, 100]                                   -- "bd"

/-- `Content-Disposition: form-data; name="a"` -/
private def hdrA : Bytes :=
  [67,111,110,116,101,110,116,45,68,105,115,112,111,115,105,116,105,111,110,58,32,102,111,114,109,45,100,97,116,97,
   59,32,110,97,109,101,61,34,97,34]

/-- `Content-Disposition: form-data; name="f"; filename="x"` CRLF `Content-Type: t/p` -/
private def hdrF : Bytes :=
  [67,111,110,116,101,110,116,45,68,105,115,112,111,115,105,116,105,111,110,58,32,102,111,114,109,45,100,97,116,97,
   59,32,110,97,109,101,61,34,102,34,59,32,102,105,108,101,110,97,109,101,61,34,120,34,13,10,
   67,111,110,116,101,110,116,45,84,121,112,101,58,32,116,47,112]

private def cdKey : List Nat := [99,111,110,116,101,110,116,45,100,105,115,112,111,115,105,116,105,111,110]

private def evA : Ev :=
  .field (some [97]) [(cdKey, [102,111,114,109,45,100,97,116,97,59,32,110,97,109,101,61,34,97,34])]

private def evF : Ev :=
  .file (some [102]) [120]
    [(cdKey, [102,111,114,109,45,100,97,116,97,59,32,110,97,109,101,61,34,102,34,59,32,102,105,108,101,110,97,109,101,61,34,120,34]),
     ([99,111,110,116,101,110,116,45,116,121,112,101], [116,47,112])]

/-- a field whose text is `CR LF - - b` (a partial delimiter) and a file whose
content is `LF CR - CR LF -` -/
private def exParts : List Part :=
  [ { hdr := hdrA, content := [13, 10, 45, 45, 98], ev := evA },
    { hdr := hdrF, content := [10, 13, 45, 13, 10, 45], ev := evF } ]

private theorem exForm : FormOK bd [112] .latin1 exParts := by
  -- the two parts are what an encoder writes for `a` and for `f`, `x`, `Content-Type: t/p`
  have h : exParts = [renderedPart [97] none [] [13, 10, 45, 45, 98],
      renderedPart [102] (some [120]) [([67,111,110,116,101,110,116,45,84,121,112,101], [116,47,112])]
        [10, 13, 45, 13, 10, 45]] := rfl
  refine ⟨by unfold NoLB; decide, findSub_eq_none_iff.mp (by decide), ?_⟩
  intro p hp
  simp only [h, List.mem_cons, List.mem_nil_iff, or_false] at hp
  rcases hp with rfl | rfl
  · exact rendered_part_ok bd [97] none [] _ ⟨by unfold QuoteFree; decide, by decide⟩ nofun nofun (by decide)
      (findSub_eq_none_iff.mp (by decide))
  · refine rendered_part_ok bd [102] (some [120]) _ _ ⟨by unfold QuoteFree; decide, by decide⟩ ?_ ?_ (by decide)
      (findSub_eq_none_iff.mp (by decide))
    · intro f hf
      cases hf
      exact ⟨by unfold QuoteFree; decide, by decide⟩
    · intro kv hkv
      rw [List.mem_singleton.mp hkv]
      exact ⟨⟨⟨67, [111,110,116,101,110,116,45,84,121,112,101,58,32,116,47], 112, by decide, by decide, by decide⟩,
        by decide⟩, by decide, by decide, by decide⟩

example : expected {} .latin1 exParts =
    .ok [ .field (some [97]) [13, 10, 45, 45, 98],
          .file (some [102]) [120]
            [(cdKey, [102,111,114,109,45,100,97,116,97,59,32,110,97,109,101,61,34,102,34,59,32,102,105,108,101,110,97,109,101,61,34,120,34]),
             ([99,111,110,116,101,110,116,45,116,121,112,101], [116,47,112])]
            [10, 13, 45, 13, 10, 45] ] := by
  decide +kernel

private theorem flatten_map_singleton (l : Bytes) : (l.map fun x => [x]).flatten = l := by
  rw [← List.flatMap_def, List.flatMap_singleton']

/-- the theorem applies to this form with preamble "p", epilogue CRLF, and one-byte chunks -/
example : parseStream bd {} .latin1 ((encode bd [112] exParts [13, 10]).map fun x => [x]) =
    expected {} .latin1 exParts :=
  parseStream_exact bd [112] [13, 10] exParts {} .latin1 exForm _ (flatten_map_singleton _)

/-- … and the model computes the same on that chunking (a direct evaluation, as a cross-check) -/
example : parseStream bd {} .latin1 ((encode bd [112] exParts [13, 10]).map fun x => [x]) =
    .ok [ .field (some [97]) [13, 10, 45, 45, 98],
          .file (some [102]) [120]
            [(cdKey, [102,111,114,109,45,100,97,116,97,59,32,110,97,109,101,61,34,102,34,59,32,102,105,108,101,110,97,109,101,61,34,120,34]),
             ([99,111,110,116,101,110,116,45,116,121,112,101], [116,47,112])]
            [10, 13, 45, 13, 10, 45] ] := by
  decide +kernel

/-- a part description with a non-ASCII name containing `;` and `=`, a filename, a
`Content-Type` line, and a content made of CR LF and dashes -/
private def exSpec : PartSpec :=
  { name := [252, 59, 61, 120],                                     -- "ü;=x"
    filename := some [233, 46, 116, 120, 116],                      -- "é.txt"
    extra := [([67,111,110,116,101,110,116,45,84,121,112,101], [116,101,120,116,47,112,108,97,105,110])],
    content := [13, 10, 45, 45, 13, 10] }

private theorem exSpec_ok : PartSpecOK bd exSpec := by
  refine ⟨⟨⟨by unfold QuoteFree; decide, by decide⟩, by unfold Scalar; decide⟩, ?_, ?_, by decide,
    findSub_eq_none_iff.mp (by decide)⟩
  · intro f hf
    cases hf
    exact ⟨⟨by unfold QuoteFree; decide, by decide⟩, by unfold Scalar; decide⟩
  · intro kv hkv
    rw [List.mem_singleton.mp hkv]
    exact ⟨⟨⟨67, [111,110,116,101,110,116,45,84,121,112,101,58,32,116,101,120,116,47,112,108,97,105], 110, by decide,
        by decide, by decide⟩, by decide, by unfold Scalar; decide⟩, by decide, by decide, by decide⟩

/-- C01.6 applies to it, whatever the chunking (here: every byte its own chunk) -/
example : parseStream bd {} .utf8
    ((encode bd [] [renderedPartU exSpec.name exSpec.filename exSpec.extra exSpec.content] [13, 10]).map fun x => [x]) =
    expected {} .utf8 [renderedPartU exSpec.name exSpec.filename exSpec.extra exSpec.content] :=
  rendered_form_exact bd [] [13, 10] [exSpec] {} (by unfold NoLB; decide) (findSub_eq_none_iff.mp (by decide))
    (fun p hp => by simp at hp; subst hp; exact exSpec_ok) _ (flatten_map_singleton _)

end Baize.Multipart
