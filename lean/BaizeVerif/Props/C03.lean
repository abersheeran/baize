/-
C03 — a Range header resolves to the canonical set of satisfiable byte ranges.

The vocabulary of the statements is in `Lemmas/Range.lean`.  C03.1–C03.4 are read off `resolveSpecs_cases`;
order independence is the uniqueness of the sorted arrangement.
-/
import BaizeVerif.Lemmas.Range

namespace Baize.Range

/-- **C03.1** the ranges of an accepted header are canonical, and there is at least one. -/
theorem accepted_canonical (n : Nat) (specs : List Spec) (rs : List (Nat × Nat))
    (h : resolveSpecs n specs = .ok rs) : rs ≠ [] ∧ Canonical n rs := by
  obtain ⟨hne, hs, hi, rfl⟩ := resolveSpecs_ok h
  refine ⟨sortMerge_ne_nil (mt List.map_eq_nil_iff.mp hne), sortMerge_canonical ?_⟩
  simp only [natRanges, List.forall_mem_map]
  intro s hs'
  exact ⟨Nat.lt_of_not_le (mt (specRange_inverted (hs s hs')).mp (hi s hs')), specRange_le n s⟩

/-- **C03.2** their union is exactly the positions the header's specs denote after clipping to the file. -/
theorem accepted_exact (n : Nat) (specs : List Spec) (rs : List (Nat × Nat))
    (h : resolveSpecs n specs = .ok rs) (p : Nat) :
    Covers rs p ↔ ∃ s ∈ specs, Denotes n s p := by
  obtain ⟨_, hs, _, rfl⟩ := resolveSpecs_ok h
  rw [sortMerge_covers, natRanges, covers_map]
  exact exists_congr fun s => and_congr_right fun h => specRange_denotes (hs s h) p

example : resolveSpecs 10 [(some 0, some 0), (some 2, some 2), (none, some 3)] = .ok [(0, 1), (2, 3), (7, 10)] := by
  decide +kernel

/-- **C03.3** 416 exactly when some spec is unsatisfiable. -/
theorem reject_416_iff (n : Nat) (specs : List Spec) :
    resolveSpecs n specs = .unsatisfiable ↔ ∃ s ∈ specs, Unsat n s := by
  rcases resolveSpecs_cases n specs with ⟨rfl, h⟩ | ⟨_, hu, h⟩ | ⟨_, hs, _, h⟩ | ⟨_, hs, _, h⟩ <;> rw [h]
  · exact ⟨(nomatch ·), fun ⟨_, hm, _⟩ => nomatch hm⟩
  · exact ⟨fun _ => hu, fun _ => rfl⟩
  · exact ⟨(nomatch ·), fun ⟨s, hm, hu⟩ => absurd hu (hs s hm)⟩
  · exact ⟨(nomatch ·), fun ⟨s, hm, hu⟩ => absurd hu (hs s hm)⟩

example : resolveSpecs 10 [(some 0, some 1), (none, some 0)] = .unsatisfiable := by decide +kernel

/-- **C03.4** 400 exactly when there is no spec, or every spec is satisfiable and one has first > last
(416 takes precedence, as in the code). -/
theorem reject_400_iff (n : Nat) (specs : List Spec) :
    resolveSpecs n specs = .malformed ↔
      specs = [] ∨ ((∀ s ∈ specs, ¬ Unsat n s) ∧ ∃ s ∈ specs, Inverted s) := by
  rcases resolveSpecs_cases n specs with ⟨rfl, h⟩ | ⟨hne, hu, h⟩ | ⟨_, hs, hi, h⟩ | ⟨hne, _, hi, h⟩ <;> rw [h]
  · simp
  · obtain ⟨s, hs, hu⟩ := hu
    simp only [reduceCtorEq, false_iff, not_or, not_and]
    exact ⟨hne, fun hall => absurd hu (hall s hs)⟩
  · simp only [true_iff]
    exact Or.inr ⟨hs, hi⟩
  · simp only [reduceCtorEq, false_iff, not_or, not_and]
    exact ⟨hne, fun _ ⟨s, hs, h⟩ => hi s hs h⟩

example : resolveSpecs 10 [(some 5, some 4)] = .malformed := by decide +kernel

/-- **C03.5** the answer does not depend on the order of the specs. -/
theorem order_independent (n : Nat) (specs₁ specs₂ : List Spec) (h : specs₁.Perm specs₂) :
    resolveSpecs n specs₁ = resolveSpecs n specs₂ := by
  have hmap : (specs₁.map (specRange n)).Perm (specs₂.map (specRange n)) := h.map _
  simp only [resolveSpecs, hmap.isEmpty_eq, hmap.any_eq, sort_congr (hmap.map _)]

/-- **C03.6** whatever the header text, the result is a 400, a 416 or a canonical list covering exactly what
the extracted specs denote. -/
theorem parseRange_sound (hdr : List Nat) (n : Nat) :
    parseRange hdr n = .malformed ∨ parseRange hdr n = .unsatisfiable ∨
    ∃ specs rs, headerSpecs hdr = some specs ∧ parseRange hdr n = .ok rs ∧
      rs ≠ [] ∧ Canonical n rs ∧ ∀ p, Covers rs p ↔ ∃ s ∈ specs, Denotes n s p := by
  unfold parseRange
  cases hs : headerSpecs hdr with
  | none => exact Or.inl rfl
  | some specs =>
    simp only
    cases hr : resolveSpecs n specs with
    | malformed => exact Or.inl rfl
    | unsatisfiable => exact Or.inr (Or.inl rfl)
    | ok rs =>
      exact Or.inr (Or.inr ⟨specs, rs, rfl, rfl, (accepted_canonical n specs rs hr).1,
        (accepted_canonical n specs rs hr).2, accepted_exact n specs rs hr⟩)

/-- "bytes=0-9,20-29,5-24" -/
def exHeader : List Nat :=
  [98,121,116,101,115,61,48,45,57,44,50,48,45,50,57,44,53,45,50,52]

example : headerSpecs exHeader = some [(some 0, some 9), (some 20, some 29), (some 5, some 24)] := by
  decide +kernel
example : parseRange exHeader 100 = .ok [(0, 30)] := by decide +kernel

/-- **C03.7** tie to the source: `scan` was written for exactly this pattern and
the unit literal is "bytes" (both regenerated from /repo on every run). -/
theorem source_pinned :
    Gen.Range.specRegex = "(\\d*)-(\\d*)" ∧ Gen.Range.unitLit = [98, 121, 116, 101, 115] := by
  decide

/-- **C03.8** for a grammatical header `bytes=` spec *( "," spec ) — each spec `first-last`, `first-` or
`-suffix` in ASCII digits, no more of them than CPython's `int()` takes — the extracted specs are exactly the
written ones, in order. -/
theorem header_text_specs (ps : List (List Nat × List Nat))
    (hd : ∀ p ∈ ps, AllDigits p.1 ∧ AllDigits p.2)
    (hne : ∀ p ∈ ps, ¬ (p.1 = [] ∧ p.2 = []))
    (hlen : ∀ p ∈ ps, p.1.length ≤ maxIntDigits ∧ p.2.length ≤ maxIntDigits) :
    headerSpecs (bytesUnit ++ 61 :: renderSet ps) = some (ps.map toSpec) := by
  unfold headerSpecs
  have hunit : ∀ x ∈ bytesUnit, x ≠ 61 := by decide
  rw [splitEq_append bytesUnit _ hunit]
  simp only [ne_eq, not_true_eq_false, if_false]
  rw [scan_renderSet ps hd]
  have hfilter : ps.filter (fun p => !(decide (p.1 = []) && decide (p.2 = []))) = ps := by
    rw [List.filter_eq_self]
    intro p hp
    simp only [Bool.not_eq_true', Bool.and_eq_false_iff, decide_eq_false_iff_not]
    exact Decidable.not_and_iff_not_or_not.mp (hne p hp)
  simp only [hfilter]
  have hany : ps.any (fun p => !(intOk p.1 && intOk p.2)) = false := by
    rw [List.any_eq_false]
    intro p hp
    simpa [intOk] using hlen p hp
  rw [if_neg (by rw [hany]; simp)]

/-- … so C03.1–C03.5 apply to the answer to a grammatical header -/
theorem grammatical_header (ps : List (List Nat × List Nat)) (n : Nat)
    (hd : ∀ p ∈ ps, AllDigits p.1 ∧ AllDigits p.2)
    (hne : ∀ p ∈ ps, ¬ (p.1 = [] ∧ p.2 = []))
    (hlen : ∀ p ∈ ps, p.1.length ≤ maxIntDigits ∧ p.2.length ≤ maxIntDigits) :
    parseRange (bytesUnit ++ 61 :: renderSet ps) n = resolveSpecs n (ps.map toSpec) := by
  unfold parseRange
  rw [header_text_specs ps hd hne hlen]

/-- "5-24", "-3", "7-" -/
example : headerSpecs (bytesUnit ++ 61 :: renderSet [([53], [50, 52]), ([], [51]), ([55], [])]) =
    some [(some 5, some 24), (none, some 3), (some 7, none)] :=
  header_text_specs _ (by unfold AllDigits; decide) (by decide) (by decide)
