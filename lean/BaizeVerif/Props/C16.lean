/-
C16 — cookies round-trip exactly and expire when asked.

The round trip holds for values of any code points (`unquote_quote`, `read_among`, `read_all`); `roundtrip_single`,
`roundtrip_among`, `roundtrip_all` are their Latin-1 cases.

`quote` = `Cookie._quote`, `unquote` = CPython's `http.cookies._unquote` (the transcribed loop), `cookiesOf` =
`request.cookies` of a `Cookie:` header, `line`/`pair`/`attrs` = `Cookie.__str__`, `httpDate t` = the `expires` text
written for the instant `t`, `parseHttpDate` = the instant an IMF-fixdate denotes.
-/
import BaizeVerif.Lemmas.Cookie
import BaizeVerif.Lemmas.Date

namespace Baize.Cookie

/-- **C16.5** Over the tables extracted from `datastructures.py`:
* a legal character is printable ASCII and none of `"` `\` `;` `,` `=`, blank or control;
* a code point 0..255 kept unescaped (legal or in the extra set) is printable ASCII (space allowed) and none of
  `"` `\` `;` `,`;
* every other one has an escape, which starts with a backslash;
* every translation is printable ASCII without `;` and `,`, in one of the three shapes the reader undoes
  (`shapeB`). -/
theorem table_facts :
    (∀ c ∈ Gen.Cookie.legalChars,
      0x21 ≤ c ∧ c < 0x7f ∧ c ≠ 34 ∧ c ≠ 92 ∧ c ≠ 59 ∧ c ≠ 44 ∧ c ≠ 61 ∧ isSpace c = false) ∧
    (∀ c, c < 256 → isUnescaped c = true → 0x20 ≤ c ∧ c < 0x7f ∧ c ≠ 34 ∧ c ≠ 92 ∧ c ≠ 59 ∧ c ≠ 44) ∧
    (∀ c, c < 256 → isUnescaped c = false → (translate c).head? = some 92 ∧ 2 ≤ (translate c).length) ∧
    (∀ c, c < 256 → (translate c).all safeCp = true) ∧
    (∀ c, c < 256 → shapeB c = true) :=
  ⟨legal_facts, fun _ _ => unescaped_facts, fun _ => escaped_head, translate_safe, shapes⟩

/-- **tie to the source**: the shapes this model was written for (regenerated on every run).  In particular
`expiresInUtc`: `set_cookie` builds the datetime with `tz=timezone.utc` — the model has no time-zone parameter. -/
theorem source_pinned :
    Gen.Cookie.strftimeFormat = "%a, %d %b %Y %H:%M:%S GMT" ∧ Gen.Cookie.expiresInUtc = true ∧
    Gen.Cookie.attrOrder = ["pair", "expires", "max_age", "domain", "path", "httponly", "secure", "samesite"] ∧
    Gen.Cookie.maxAgeOp = ">" ∧ Gen.Cookie.maxAgeBound = -1 ∧
    Gen.Cookie.octalFormat = "\\%03o" ∧ Gen.Cookie.escapeBound ≤ 512 ∧ Gen.Cookie.overridesWin = true ∧
    Gen.Cookie.legalKeyTemplate = "[%s]+" ∧ Gen.Cookie.legalKeyMethod = "fullmatch" ∧
    Gen.Cookie.nameQuoted = true ∧ Gen.Cookie.valueQuoted = true ∧
    Gen.Cookie.quoteOpen = [34] ∧ Gen.Cookie.quoteClose = [34] ∧ Gen.Cookie.pairSep = [61] ∧
    Gen.Cookie.joiner = [59, 32] ∧
    Gen.Cookie.expiresPrefix = strCps "expires=" ∧ Gen.Cookie.maxAgePrefix = strCps "max-age=" ∧
    Gen.Cookie.readerChunkSep = [59] ∧ Gen.Cookie.readerPairSep = [61] ∧ Gen.Cookie.readerMaxSplit = 1 ∧
    Gen.Cookie.readerUnquote = "http_cookies._unquote" ∧
    Gen.Cookie.deleteExpires = 0 ∧ Gen.Cookie.deleteMaxAge = 0 := by
  decide +kernel

/-- **C16.1a** every character of the quoted text is printable ASCII (0x20 … 0x7e). -/
theorem quote_ascii (v : Str) (hv : ∀ c ∈ v, c < 256) : ∀ d ∈ quote v, 0x20 ≤ d ∧ d < 0x7f := by
  intro d hd
  have := quote_ascii' v hv d hd
  omega

/-- **C16.1b** it has no `;` and no `,`: the Latin-1 case of `quote_no_sep`; `hv` is not used. -/
theorem quote_no_separator (v : Str) (hv : ∀ c ∈ v, c < 256) : 59 ∉ quote v ∧ 44 ∉ quote v :=
  quote_no_sep v

/-- **C16.1c** the quoted text is never empty and neither starts nor ends with white space: the reader's `strip()`
is the identity on it. -/
theorem quote_strip_stable (v : Str) : quote v ≠ [] ∧ strip (quote v) = quote v :=
  ⟨quote_ne_nil v, quote_strip v⟩

example : quote [97, 59, 32, 255, 34] = [34, 97, 92, 48, 55, 51, 32, 92, 51, 55, 55, 92, 34, 34] := by decide
example : quote [] = [34, 34] := by decide
example : quote [97, 98] = [97, 98] := by decide

private theorem scan_flatMap (v : Str) : scanAux 0 (v.flatMap translate) = v := by
  induction v with
  | nil => rfl
  | cons c cs ih => rw [List.flatMap_cons, scan_translate, ih]

/-- CPython's `_unquote` loop (two regex searches per round, "earlier match wins, octal wins a tie") computes the
same function as the one-pass scanner `scanAux`. -/
theorem unquote_eq_scan (s : Str) :
    unquote s = if s.length < 2 ∨ s.head? ≠ some 34 ∨ s.getLast? ≠ some 34 then s
                else scanAux 0 (s.drop 1).dropLast := by
  rw [unquote, loop_eq_scan _ _ (Nat.lt_succ_self _)]
  by_cases h1 : s.length < 2
  · simp [h1]
  · by_cases h2 : s.head? ≠ some 34 ∨ s.getLast? ≠ some 34 <;> simp [h1, h2]

example : unquote [34, 97, 92, 48, 55, 51, 92, 34, 92, 56, 34] = [97, 59, 34, 56] := by decide

/-- **C16.2** the reader undoes the writer, for every value (the empty one included).  A legal key is returned as it
is (it does not start with `"`), a quoted text goes through the scanner code point by code point
(`scan_translate`). -/
theorem unquote_quote (v : Str) : unquote (quote v) = v := by
  rw [unquote_eq_scan]
  rcases quote_cases v with ⟨hk, hq⟩ | ⟨_, hq⟩
  · rw [hq]
    obtain ⟨hne, hall⟩ := legalKey_spec hk
    cases v with
    | nil => exact absurd rfl hne
    | cons c cs =>
      have : c ≠ 34 := (legal_facts c (hall c (by simp))).2.2.1
      simp [this]
  · rw [hq]
    simp +arith [List.getLast?_cons, scan_flatMap]

/-- **C16.2** the Latin-1 case of `unquote_quote`; `hv` is not used. -/
theorem roundtrip_single (v : Str) (hv : ∀ c ∈ v, c < 256) : unquote (quote v) = v :=
  unquote_quote v

example : unquote (quote [0, 10, 13, 34, 92, 59, 44, 61, 32, 127, 128, 255, 92, 48, 49, 50]) =
    [0, 10, 13, 34, 92, 59, 44, 61, 32, 127, 128, 255, 92, 48, 49, 50] :=
  roundtrip_single _ (by decide)

/-- the `Cookie:` header a client sends for the given pairs (RFC 6265: `; ` between pairs) -/
def cookieHeader : List Str → Str
  | [] => []
  | p :: ps => joinWith [59, 32] p ps

private theorem pair_no_semicolon {name : Str} (hn : isLegalKey name = true) (v : Str) :
    59 ∉ name ++ 61 :: quote v := by
  intro hm
  rcases List.mem_append.mp hm with h | h
  · exact (legalKey_no_sep hn).1 h
  · rcases List.mem_cons.mp h with h | h
    · omega
    · exact (quote_no_sep v).1 h

private theorem chunkEntry_pair (ws name v : Str) (hws : ∀ c ∈ ws, c = 32) (hn : isLegalKey name = true) :
    chunkEntry (ws ++ name ++ 61 :: quote v) = some (name, v) := by
  have h61 : 61 ∉ ws ++ name := by
    intro hm
    rcases List.mem_append.mp hm with h | h
    · have := hws 61 h; omega
    · exact (legalKey_no_sep hn).2 h
  have hsp : ∀ c ∈ ws, isSpace c = true := by
    intro c hc; rw [hws c hc]; decide
  have hnemp : (ws ++ name ++ 61 :: quote v).isEmpty = false := by simp
  have hname : name.isEmpty = false := by simpa using (legalKey_spec hn).1
  unfold chunkEntry
  rw [hnemp, pairSepChar_eq, splitFirst_append 61 (ws ++ name) (quote v) h61]
  simp only [Bool.false_eq_true, ↓reduceIte]
  rw [strip_ws_trimmed ws name hsp (legalKey_trimmed hn), quote_strip v, unquote_quote v]
  simp [hname]

/-- **C16.3** A cookie with a token name and any value, sent back as `name=quote v` anywhere in a
`Cookie:` header among arbitrary other chunks (`before`, `after`: any text without `;`), is read back
exactly, provided no *later* chunk assigns the same name (a later one wins: the dictionary
semantics of `request.cookies`).  A later chunk is read as `32 :: ch`: the blank is the one the `; ` joiner
puts before it. -/
theorem read_among (name v : Str) (before after : List Str) (hn : isLegalKey name = true)
    (hb : ∀ ch ∈ before, 59 ∉ ch) (ha : ∀ ch ∈ after, 59 ∉ ch)
    (hlater : ∀ ch ∈ after, ∀ kv, chunkEntry (32 :: ch) = some kv → kv.1 ≠ name) :
    dictGet (cookiesOf (cookieHeader (before ++ (name ++ 61 :: quote v) :: after))) name = some v := by
  have ht := pair_no_semicolon hn v
  have hall : ∀ q ∈ before ++ (name ++ 61 :: quote v) :: after, 59 ∉ q := by
    intro q hq
    rcases List.mem_append.mp hq with h | h
    · exact hb q h
    · rcases List.mem_cons.mp h with rfl | h
      · exact ht
      · exact ha q h
  -- the pieces of the header: everything before, the target (with or without a blank), everything after
  have key : ∃ (L : List Str) (ws : Str), (∀ c ∈ ws, c = 32) ∧
      pieces 59 (cookieHeader (before ++ (name ++ 61 :: quote v) :: after)) =
        L ++ (ws ++ name ++ 61 :: quote v) :: after.map (32 :: ·) := by
    cases before with
    | nil => exact ⟨[], [], by simp, pieces_join _ _ ht ha⟩
    | cons b bs =>
      refine ⟨b :: bs.map (32 :: ·), [32], by simp, ?_⟩
      rw [List.cons_append, cookieHeader, pieces_join b _ (hall b (by simp))]
      · simp
      · exact fun q hq => hall q (List.mem_cons_of_mem _ hq)
  obtain ⟨L, ws, hws, hp⟩ := key
  unfold cookiesOf
  rw [chunkSep_eq, hp, List.foldl_append, List.foldl_cons, foldl_addChunk_other]
  · unfold addChunk
    rw [chunkEntry_pair ws name v hws hn]
    exact dictGet_set_same _ _ _
  · intro ch hch kv hkv
    obtain ⟨a, ha', rfl⟩ := List.mem_map.mp hch
    exact hlater a ha' kv hkv

/-- **C16.3** the Latin-1 case of `read_among`; `hv` is not used. -/
theorem roundtrip_among (name v : Str) (before after : List Str)
    (hn : isLegalKey name = true) (hv : ∀ c ∈ v, c < 256)
    (hb : ∀ ch ∈ before, 59 ∉ ch) (ha : ∀ ch ∈ after, 59 ∉ ch)
    (hlater : ∀ ch ∈ after, ∀ kv, chunkEntry (32 :: ch) = some kv → kv.1 ≠ name) :
    dictGet (cookiesOf (cookieHeader (before ++ (name ++ 61 :: quote v) :: after))) name = some v :=
  read_among name v before after hn hb ha hlater

example : dictGet (cookiesOf (cookieHeader [[120, 61, 49], [107] ++ 61 :: quote [59, 32, 34], [122]])) [107]
    = some [59, 32, 34] := by decide

/-- **C16.3'** a whole jar: cookies with pairwise distinct token names and any values, all sent back in
one header, are all read back exactly. -/
theorem read_all (jar : List (Str × Str)) (hnames : ∀ nv ∈ jar, isLegalKey nv.1 = true)
    (hdistinct : (jar.map (·.1)).Nodup) :
    ∀ nv ∈ jar, dictGet (cookiesOf (cookieHeader (jar.map fun nv => nv.1 ++ 61 :: quote nv.2))) nv.1
      = some nv.2 := by
  intro nv hnv
  have hno : ∀ p ∈ jar, 59 ∉ p.1 ++ 61 :: quote p.2 := fun p hp => pair_no_semicolon (hnames p hp) p.2
  obtain ⟨before, after, rfl⟩ := List.append_of_mem hnv
  simp only [List.map_append, List.map_cons] at hdistinct ⊢
  refine read_among nv.1 nv.2 _ _ (hnames nv hnv) (List.forall_mem_map.mpr fun p hp => hno p (by simp [hp]))
    (List.forall_mem_map.mpr fun p hp => hno p (by simp [hp])) (List.forall_mem_map.mpr fun p hp kv hkv heq => ?_)
  -- a later chunk is itself a pair of the jar, read as `chunkEntry_pair` says; `Nodup` keeps its name apart
  have := chunkEntry_pair [32] p.1 p.2 (by simp) (hnames p (by simp [hp]))
  rw [List.singleton_append] at this
  cases this.symm.trans hkv
  exact (List.nodup_cons.mp (List.nodup_append.mp hdistinct).2.1).1 (heq ▸ List.mem_map_of_mem hp)

/-- **C16.3'** the Latin-1 case of `read_all`; `hvals` is not used. -/
theorem roundtrip_all (jar : List (Str × Str))
    (hnames : ∀ nv ∈ jar, isLegalKey nv.1 = true) (hvals : ∀ nv ∈ jar, ∀ c ∈ nv.2, c < 256)
    (hdistinct : (jar.map (·.1)).Nodup) :
    ∀ nv ∈ jar, dictGet (cookiesOf (cookieHeader (jar.map fun nv => nv.1 ++ 61 :: quote nv.2))) nv.1
      = some nv.2 :=
  read_all jar hnames hdistinct

example : ∀ nv ∈ [([97], [59]), ([98], [34, 92]), ([99], [])],
    dictGet (cookiesOf (cookieHeader ([([97], [59]), ([98], [34, 92]), ([99], ([] : Str))].map
      fun nv => nv.1 ++ 61 :: quote nv.2))) nv.1 = some nv.2 :=
  roundtrip_all _ (by decide) (by decide) (by decide)

/-- **C16.4a** proleptic Gregorian round trip: the day number of the civil date of day `z` is `z`. -/
theorem days_civil_roundtrip (z : Int) :
    daysFromCivil (civilFromDays z).1 (civilFromDays z).2.1 (civilFromDays z).2.2 = z := by
  obtain ⟨era, yoe, mp, d, hy, hm, -, -, hz, hciv⟩ := civil_parts z
  rw [hciv]
  unfold daysFromCivil
  simp only
  omega

theorem civil_valid (z : Int) :
    1 ≤ (civilFromDays z).2.1 ∧ (civilFromDays z).2.1 ≤ 12 ∧
    1 ≤ (civilFromDays z).2.2 ∧ (civilFromDays z).2.2 ≤ 31 := by
  obtain ⟨era, yoe, mp, d, -, hm, hd, -, -, hciv⟩ := civil_parts z
  rw [hciv]
  simp only
  split <;> omega

example : civilFromDays 0 = (1970, 1, 1) := by decide
example : civilFromDays 19782 = (2024, 2, 29) := by decide
example : daysFromCivil 2000 3 1 = 11017 := by decide
example : civilFromDays (-719162) = (1, 1, 1) := by decide

/-- **C16.4b** the text written for the instant `t` denotes exactly `t`: parsing the
IMF-fixdate (day, month name, year, h:m:s, `GMT`) and converting the civil date back gives `t`,
for every instant from year 1 on.  No time zone occurs. -/
theorem expires_denotes (t : Int) (ht : minTimestamp ≤ t) : parseHttpDate (httpDate t) = some t := by
  unfold httpDate
  simp only
  generalize hdays : t / 86400 = days
  generalize hsod : (t % 86400).toNat = sod
  -- `minTimestamp` is -719162 * 86400, the first second of 0001-01-01 (`maxTimestamp` is 2932897 * 86400 - 1, the
  -- last of 9999-12-31); the year is not negative from day -719468 on, which is 0000-03-01
  have hts : sod < 86400 ∧ t = days * 86400 + sod ∧ -719468 ≤ days := by unfold minTimestamp at ht; omega
  clear hdays hsod ht
  obtain ⟨hm1, hm12, hd1, hd31⟩ := civil_valid days
  have hy := civil_year_nonneg days hts.2.2
  have hrt := days_civil_roundtrip days
  have hw : weekdayIdx days < 7 := by unfold weekdayIdx; omega
  generalize civilFromDays days = ymd at *
  obtain ⟨y, m, d⟩ := ymd
  simp only at hm1 hm12 hd1 hd31 hy hrt ⊢
  have hmi : m.toNat - 1 < 12 := by omega
  rw [parse_fields (weekday_len _ hw) (month_len _ hmi) (month_idx _ hmi) (by omega) (by omega) (by omega)
    (by omega)]
  have c1 : ((y.toNat : Nat) : Int) = y := Int.toNat_of_nonneg hy
  have c2 : ((m.toNat - 1 + 1 : Nat) : Int) = m := by omega
  have c3 : ((d.toNat : Nat) : Int) = d := Int.toNat_of_nonneg (by omega)
  rw [c1, c2, c3, hrt]
  simp only [Option.some.injEq]
  omega

example : httpDate 1700000010 = strCps "Tue, 14 Nov 2023 22:13:30 GMT" := by decide +kernel
example : parseHttpDate (strCps "Tue, 14 Nov 2023 22:13:30 GMT") = some 1700000010 := by decide +kernel

/-- the weekday advances with the days, and day 0 was a Thursday -/
theorem weekday_correct (days : Int) :
    weekdayIdx (days + 1) = (weekdayIdx days + 1) % 7 ∧ weekdayIdx 0 = 3 := by
  unfold weekdayIdx
  omega

/-- **C16.4c** `set_cookie(expires=e)` at clock reading `now`: unless `now + e` is outside the
years 1…9999 (then `fromtimestamp` raises), the first attribute after the pair is
`expires=` followed by a date that denotes exactly `now + e`. -/
theorem set_cookie_expires (now e maxAge : Int) (name value path domain samesite : Str)
    (secure httponly : Bool) :
    (minTimestamp ≤ now + e ∧ now + e ≤ maxTimestamp →
      ∃ c, setCookie now name value maxAge (some e) path domain secure httponly samesite = some c ∧
        c.name = name ∧ c.value = value ∧
        attrs c = (Gen.Cookie.expiresPrefix ++ httpDate (now + e)) :: attrs { c with expires := none } ∧
        parseHttpDate (httpDate (now + e)) = some (now + e)) ∧
    (¬ (minTimestamp ≤ now + e ∧ now + e ≤ maxTimestamp) →
      setCookie now name value maxAge (some e) path domain secure httponly samesite = none) := by
  constructor
  · intro h
    exact ⟨_, setCookie_inRange h .., rfl, rfl, rfl, expires_denotes _ h.1⟩
  · intro h
    simp [setCookie, h]

example : ∃ c, setCookie 1700000000 [107] [118] (-1) (some 10) [47] [] false false (strCps "lax") = some c ∧
    line c = strCps "k=v; expires=Tue, 14 Nov 2023 22:13:30 GMT; path=/; samesite=lax" :=
  ⟨_, rfl, by decide +kernel⟩

/-- **C16.4d** Max-Age is the requested number: for `n ≥ 0` the attribute `max-age=` followed by
the decimal text of `n` (which reads back as `n`) is among the attributes; for `n < 0` (the
default −1 means "not set") no attribute is produced from it. -/
theorem max_age_verbatim (c : CookieRec) :
    (0 ≤ c.maxAge → Gen.Cookie.maxAgePrefix ++ decimal c.maxAge.toNat ∈ attrs c ∧
        digitsVal (decimal c.maxAge.toNat) = c.maxAge.toNat) ∧
    (c.maxAge < 0 → attrs c = attrs { c with maxAge := -1 }) := by
  constructor
  · intro h
    have h2 : intRepr c.maxAge = decimal c.maxAge.toNat := if_neg (by omega)
    exact ⟨by simp [attrs, maxAge_emitted, h, h2], decimal_val _⟩
  · intro h
    simp [attrs, maxAge_emitted, Int.not_le.mpr h]

example : Gen.Cookie.maxAgePrefix ++ decimal 3600 ∈
    attrs ⟨[107], [118], none, 3600, [], [47], false, false, strCps "lax"⟩ := by decide

/-- **C16.4e** `delete_cookie` at clock reading `now` emits a cookie that is already expired: its
`expires` denotes `now` itself (not later) and its `max-age` is `0`; the value is empty. -/
theorem delete_is_expired (now : Int) (name path domain samesite : Str) (secure httponly : Bool)
    (h : minTimestamp ≤ now ∧ now ≤ maxTimestamp) :
    ∃ c, deleteCookie now name path domain secure httponly samesite = some c ∧
      c.name = name ∧ c.value = [] ∧
      attrs c = (Gen.Cookie.expiresPrefix ++ httpDate now) :: (Gen.Cookie.maxAgePrefix ++ [48]) ::
        attrs { c with expires := none, maxAge := -1 } ∧
      parseHttpDate (httpDate now) = some now := by
  refine ⟨_, deleteCookie_eq h .., rfl, rfl, ?_, expires_denotes _ h.1⟩
  simp [attrs, maxAge_emitted, show intRepr 0 = [48] from rfl]

example : ∃ c, deleteCookie 1700000000 [107] [47] [] false false (strCps "lax") = some c ∧
    line c = strCps "k=\"\"; expires=Tue, 14 Nov 2023 22:13:20 GMT; max-age=0; path=/; samesite=lax" :=
  ⟨_, rfl, by decide +kernel⟩

/-- **C16.4f** whatever else is done to the response - cookies of the same or other names set before or
after, earlier deletions - every call emits exactly its own cookie, in call order. -/
theorem seq_emits_every_call (now : Int) (ops : List COp) (cs : List CookieRec)
    (h : applyCOps now ops = some cs) :
    cs.length = ops.length ∧
      ∀ (i : Nat) (o : COp), ops[i]? = some o → (cs[i]?) = o.record now ∧ (cs[i]?).isSome := by
  have hm := applyCOps_some h
  refine ⟨by simpa using (congrArg List.length hm).symm, fun i o ho => ?_⟩
  have := congrArg (·[i]?) hm
  simp only [List.getElem?_map, ho, Option.map_some] at this
  obtain ⟨c, hc, hr⟩ := Option.map_eq_some_iff.mp this.symm
  exact ⟨hc.trans hr, by simp [hc]⟩

/-- in particular the line of a `delete_cookie` call is present and is the expired cookie of `delete_is_expired` -/
theorem seq_delete_is_expired (now : Int) (ops : List COp) (cs : List CookieRec) (i : Nat) (n p : Str)
    (h : applyCOps now ops = some cs) (hi : ops[i]? = some (.del n p))
    (hn : minTimestamp ≤ now ∧ now ≤ maxTimestamp) :
    ∃ c, cs[i]? = some c ∧ c.name = n ∧ c.value = [] ∧ c.path = p ∧
      attrs c = (Gen.Cookie.expiresPrefix ++ httpDate now) :: (Gen.Cookie.maxAgePrefix ++ [48]) ::
        attrs { c with expires := none, maxAge := -1 } ∧
      parseHttpDate (httpDate now) = some now := by
  obtain ⟨c, hc, h1, h2, h3, h4⟩ :=
    delete_is_expired now n p [] (strCps Gen.Cookie.defaultSamesite) false false hn
  have hp := hc.symm.trans (deleteCookie_eq hn ..)
  refine ⟨c, ((seq_emits_every_call now ops cs h).2 i _ hi).1.trans hc, h1, h2, ?_, h3, h4⟩
  cases hp
  rfl

example : applyCOps 1700000000 [.set [107] [118] [47], .del [107] [47], .del [107] [47]] =
    some [⟨[107], [118], none, -1, [], [47], false, false, strCps "lax"⟩,
          ⟨[107], [], some 1700000000, 0, [], [47], false, false, strCps "lax"⟩,
          ⟨[107], [], some 1700000000, 0, [], [47], false, false, strCps "lax"⟩] := by decide

end Baize.Cookie
