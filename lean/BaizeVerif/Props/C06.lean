/-
C06 — streaming responses always terminate and release the producer.

Three transition systems, each for every producer length `n`, both producer endings (`fails`) and EVERY
schedule (the `…Reachable` predicates quantify over all of them): W, the WSGI server-sent-event relay on the
repaired protocol (`Variant.fixed`), with witnesses that the protocol before the repair (`Variant.current`)
deadlocks; S and E, the ASGI `StreamResponse` and `SendEventResponse`.  Last the WSGI `StreamResponse`
(`yield from`), a sequential program: every `n`, `fails` and number of chunks read before the close.
-/
import BaizeVerif.Lemmas.Stream
import BaizeVerif.Lemmas.StreamAsgi
import BaizeVerif.Lemmas.StreamWsgi

namespace Baize.Stream

/-- **C06.W1 no deadlock.** While the consumer is inside its `finally` (the server closed the iterable at a yield, or
the stream ended), the relay thread or the closing thread can take a step. -/
theorem w_no_deadlock {n : Nat} {fails : Bool} {s : WState}
    (hr : WReachable .fixed n fails s) (hc : s.cpc.closing = true) :
    wenabled .fixed s .relay = true ∨ wenabled .fixed s .cons = true := by
  have h := reachable_inv hr
  have := h.sentA
  have := h.sentB
  have := h.started
  have := h.waitS
  have := h.noOld
  simp only [wenabled, wstep, Option.isSome_iff_ne_none, ne_eq, relayStep_eq_none, consStep_eq_none]
  -- draining an empty queue: the relay has started and not yet put its sentinel, so it can move;
  -- waiting for the future: the sentinel was taken, so the relay is past its last put
  grind [RPc.finished, CPc.closing]

/-- Before the `finally` the consumer's own thread can move (at a `yield` that step is the server resuming the
generator), unless it waits in `q.get` on the empty queue: then the ping timeout is pending. -/
theorem w_never_stuck {n : Nat} {fails : Bool} {s : WState}
    (hr : WReachable .fixed n fails s) (hd : s.finished = false) :
    ∃ t, wenabled .fixed s t = true := by
  by_cases hc : s.cpc.closing = true
  · rcases w_no_deadlock hr hc with h | h
    · exact ⟨.relay, h⟩
    · exact ⟨.cons, h⟩
  · by_cases hq : s.cpc = .get ∧ s.q = .empty
    · exact ⟨.timer, by simp [wenabled, wstep, hq]⟩
    · refine ⟨.cons, ?_⟩
      simp only [wenabled, wstep, Option.isSome_iff_ne_none, ne_eq, consStep_eq_none]
      grind [CPc.closing, WState.finished]

/-- Where the weights of `wrank` come from.  `consRank` and `relayRank` number the program points of the consumer's
`finally` and of the relay backwards from their ends (`test` is 3 under a set flag: from there it leads to `putNone`).
The relay's loop goes back from `put` (4) to `test` (6), paid by the 3 an empty queue is worth to the relay while the
flag is clear, which the `put` forfeits by filling it; nobody hands them back, since in the closing phase only the
drain empties the queue, under a set flag (`WInv.flag`).  `relayRank` counts twice so that a `put`, which lowers it
by one, also pays the last summand (1 for a filled queue); a drain that takes an item keeps `consRank` and lowers
that summand. -/
theorem w_closing_step {t : Tid} {s s' : WState} (h : WInv s) (hc : s.cpc.closing = true)
    (hs : wstep .fixed t s = some s') :
    (s'.cpc.closing = true ∨ s'.finished = true) ∧ wrank s' < wrank s := by
  have := h.flag
  have := h.noOld
  clear h
  cases s
  cases t <;> simp only [wstep, relayStep, consStep, canPut_iff] at hs
  -- one goal per edge (the blocked ones go with `cases hs`); after a change of the model the guards left in the context
  -- of a goal that fails tell which edge it is, as in `winv_step`.  The same shape in `s_closed_step`, `e_closed_step`.
  all_goals (repeat' split at hs) <;> first | cases hs | skip
  all_goals simp_all [CPc.closing, WState.finished, wrank, relayRank, consRank]
  all_goals grind

/-- **C06.W2 termination.** While the consumer is in its `finally`, every step of every thread lowers `wrank`: no
fairness beyond "some enabled thread runs" (W1) is needed. -/
theorem w_rank_decreases {n : Nat} {fails : Bool} {s s' : WState} {t : Tid}
    (hr : WReachable .fixed n fails s) (hc : s.cpc.closing = true)
    (hs : wstep .fixed t s = some s') : wrank s' < wrank s :=
  (w_closing_step (reachable_inv hr) hc hs).2

/-- Whatever the producer's length, after the close the call needs at most 30 steps of all threads together.  The
constant is loose: `consRank_le` and `relayRank_le` give 5 + 2·10 + 1 = 26, and the maximum is 25 (`relayRank` is 10
on an empty queue only). -/
theorem w_rank_bounded (s : WState) : wrank s ≤ 30 := by
  have := consRank_le s
  have := relayRank_le s
  unfold wrank
  split <;> omega

/-- Inferred from this one-step statement, stated by no theorem here: once the flag is set the relay does not enter
`next(i)` again, and a relay inside `next(i)` at that moment leaves it by one step (`relayStep`: to `put`, `putNone`
or `test`).  So once the flag is set at most one further step is a step of the user's producer; in the closing
positions before it (up to `finFlag`) the relay still runs as before. -/
theorem w_no_new_producer_step {v : Variant} {s s' : WState} {t : Tid}
    (hstop : s.stop = true) (hn : s.rpc ≠ .next) (hs : wstep v t s = some s') :
    s'.rpc ≠ .next ∧ s'.stop = true := by
  cases t <;> simp only [wstep, relayStep, consStep] at hs <;> grind

def weffSteps (v : Variant) : List Tid → WState → Nat
  | [], _ => 0
  | t :: ts, s =>
    match wstep v t s with
    | none => weffSteps v ts s
    | some s' => weffSteps v ts s' + 1

/-- **C06.W2' termination, schedule form.** From a closing state, whatever schedule follows (however long, however
unfair), at most `wrank s ≤ 30` steps are taken; the system then is finished (W1: a closing state that is not has an
enabled step). -/
theorem w_terminates {n : Nat} {fails : Bool} (sched : List Tid) {s : WState}
    (hr : WReachable .fixed n fails s) (hc : s.cpc.closing = true ∨ s.finished = true) :
    weffSteps .fixed sched s ≤ wrank s := by
  induction sched generalizing s with
  | nil => simp [weffSteps]
  | cons t ts ih =>
    unfold weffSteps
    cases hs : wstep .fixed t s with
    | none => exact ih hr hc
    | some s' =>
      have h := reachable_inv hr
      rcases hc with hc | hf
      · have ⟨hc', hlt⟩ := w_closing_step h hc hs
        have := ih (hr.step hs) hc'
        simp only
        omega
      · -- finished: no thread is enabled any more
        have := h.fin
        cases t <;> simp only [wstep] at hs <;>
          grind [WState.finished, relayStep_eq_none, consStep_eq_none]

/-- **C06.W3 released.** When the response call has returned, the relay thread is gone (it ran to its end, or was
cancelled before it started) and the user's generator was closed exactly once; in the second case it was never
started, so there is nothing to clean up. -/
theorem w_finished_released {n : Nat} {fails : Bool} {s : WState}
    (hr : WReachable .fixed n fails s) (hf : s.finished = true) :
    (s.rpc = .done ∧ s.genClosed = 1) ∨
      (s.rpc = .cancelled ∧ s.genClosed = 0 ∧ s.produced = 0) := by
  have h := reachable_inv hr
  simp only [WState.finished, decide_eq_true_eq] at hf
  have hfin := h.fin hf
  have hcl := h.closed
  have hc := h.canc
  cases hrpc : s.rpc <;> simp_all [RPc.finished]

theorem w_closed_at_most_once {n : Nat} {fails : Bool} {s : WState}
    (hr : WReachable .fixed n fails s) : s.genClosed ≤ 1 := by
  have h := (reachable_inv hr).closed
  split at h <;> omega

/-- **C06.W4 delivered prefix.** What was handed to the server is a prefix of what the producer yielded: in order,
nothing lost in between, nothing duplicated. -/
theorem w_delivered_prefix {n : Nat} {fails : Bool} {s : WState}
    (hr : WReachable .fixed n fails s) : s.delivered <+: s.yielded := by
  have h := reachable_inv hr
  have := h.delLe
  have := h.count
  exact prefix_range h.deliv (by omega)

/-- … and while the stream is open nothing is held back: all the consumer took out of the queue has been delivered
(items are dropped only by the closing drain), and the relay is at most two items ahead. -/
theorem w_no_loss_while_open {n : Nat} {fails : Bool} {s : WState}
    (hr : WReachable .fixed n fails s) (ho : s.cpc.closing = false) (hd : s.finished = false) :
    s.delivered = List.range s.taken ∧ s.produced ≤ s.taken + 2 := by
  have h := reachable_inv hr
  have h1 := h.deliv
  have h3 := h.count
  simp only [WState.finished, decide_eq_false_iff_not] at hd
  have h2 := h.delEq ho hd
  constructor
  · rw [← h2, h1]
  · split at h3 <;> split at h3 <;> omega

/-! ### The protocol before the repair deadlocks (DESIGN §6 #5) -/

/-- the schedule observed on the real code (`close()` after the first of three events): the relay is one item ahead
and holds the next one; after the closer has drained the queue the relay completes one more hand-off, and its sentinel
put blocks for ever -/
def witnessSched : List Tid :=
  [.cons, .relay, .relay, .relay, .relay, .cons, .relay, .relay, .relay, .relay, .relay,
   .closer, .cons, .cons, .cons, .cons, .relay, .relay, .cons, .cons]

/-- **witness**: the model of the code before the repair reaches a closing state in which NO thread is enabled (relay
blocked in `q.put(None)`, closer in `push_future.exception()`), the generator not closed: `w_no_deadlock` is false for
`Variant.current`. -/
theorem w_no_deadlock_witness :
    let s := wrun .current witnessSched (winit 3 false)
    s.cpc.closing = true ∧ s.rpc = .putNone ∧ s.cpc = .finWait ∧ s.genClosed = 0 ∧
      s.delivered = [0] ∧ (∀ t : Tid, wenabled .current s t = false) := by
  refine ⟨by decide, by decide, by decide, by decide, by decide, ?_⟩
  intro t
  cases t <;> decide

/-- the same with a producer of two items that is in the middle of its step when the close arrives (it yields later) -/
theorem w_no_deadlock_witness_midstep :
    let s := wrun .current
      [.cons, .relay, .relay, .relay, .relay, .cons, .relay, .closer, .cons, .cons, .cons,
       .cons, .relay, .relay, .relay, .relay] (winit 2 false)
    s.cpc = .finWait ∧ s.rpc = .putNone ∧ (∀ t : Tid, wenabled .current s t = false) := by
  refine ⟨by decide, by decide, ?_⟩
  intro t
  cases t <;> decide

/-- a third trigger: the consumer's own code raises right after taking an event (one that cannot be encoded); its
`finally` runs as on a close -/
theorem w_no_deadlock_witness_consfail :
    let s := wrun .current
      [.cons, .relay, .relay, .relay, .relay, .relay, .relay, .fail, .cons, .cons, .relay, .relay,
       .cons] (winit 2 false)
    s.cpc = .finWait ∧ s.rpc = .putNone ∧ s.consFailed = true ∧
      (∀ t : Tid, wenabled .current s t = false) := by
  refine ⟨by decide, by decide, by decide, ?_⟩
  intro t
  cases t <;> decide

/-- … which the repaired protocol survives: generator closed once, relay gone -/
example :
    let s := wrun .fixed
      [.cons, .relay, .relay, .relay, .relay, .relay, .relay, .fail, .cons, .cons, .relay, .relay,
       .cons, .cons, .relay, .relay, .cons, .cons, .cons] (winit 2 false)
    s.finished = true ∧ s.rpc = .done ∧ s.genClosed = 1 ∧ s.consFailed = true ∧ s.delivered = [] := by
  decide

/-- on the repaired protocol the very same schedule, continued, ends released -/
example :
    let s := wrun .fixed (witnessSched ++ [.cons, .relay, .cons, .relay, .cons, .cons, .cons])
      (winit 3 false)
    s.finished = true ∧ s.rpc = .done ∧ s.genClosed = 1 ∧ s.delivered = [0] := by decide

/-- **tie to the source** (regenerated from /repo on every run): the WSGI source implements the repaired protocol, the
queue has one slot, the relay ends with `put(None)` then `close()`, and the ping bytes are the SSE comment
`: ping\n\n` on both sides. -/
theorem source_pinned :
    wsgiVariant = .fixed ∧ Gen.Stream.wsgiQueueMaxsize = 1 ∧
    Gen.Stream.wsgiRelayFinally = ["put", "if()[close]"] ∧
    Gen.Stream.wsgiPing = [58, 32, 112, 105, 110, 103, 10, 10] ∧
    Gen.Stream.asgiPing = Gen.Stream.wsgiPing := by
  decide

/-- a reachable closing, non-finished state with the relay one item ahead (W1, W2 apply) -/
example : WReachable .fixed 3 false (wrun .fixed (witnessSched.take 13) (winit 3 false)) ∧
    (wrun .fixed (witnessSched.take 13) (winit 3 false)).cpc.closing = true ∧
    (wrun .fixed (witnessSched.take 13) (winit 3 false)).rpc = .put :=
  ⟨⟨_, rfl⟩, by decide, by decide⟩

/-- W3/W4 on a finished run with a failing producer: exception re-raised, generator closed once -/
example :
    let s := wrun .fixed [.cons, .relay, .relay, .relay, .relay, .cons, .cons, .cons,
      .relay, .relay, .relay, .cons, .cons, .cons, .relay, .cons, .cons] (winit 1 true)
    s.finished = true ∧ s.raised = true ∧ s.genClosed = 1 ∧ s.delivered = [0] ∧ s.yielded = [0] := by
  decide

/-- the cancelled-before-start branch of W3 is reachable -/
example :
    let s := wrun .fixed [.cons, .timer, .closer, .cons, .cons] (winit 2 false)
    s.finished = true ∧ s.rpc = .cancelled ∧ s.genClosed = 0 ∧ s.pings = 1 := by decide

end Baize.Stream

/-! ## S — ASGI StreamResponse (`StreamingResponse.__call__` + `StreamResponse.render_stream`) -/

namespace Baize.StreamAsgi

open Baize.Stream (Slot)

/-- **C06.S1 no deadlock.** The task running `__call__` is never blocked by another task: until it has returned it has
a step (its awaits are on the producer and on `send` only). -/
theorem s_no_deadlock (s : SState) (hd : s.mpc ≠ .done) : senabled s .main = true := by
  simpa [senabled, sstep, Option.isSome_iff_ne_none, smain_eq_none] using hd

/-- Where the weights of `srank` come from.  `SPc.pos` numbers the program points of `__call__` backwards from `done`
along the way it takes once `closed` is set (`loopTest` below `anext` and `send`: from there it now leaves the loop)
and counts 3, more than the 1 by which its first step raises the rest (it creates the watcher).  The last summand is
there because `closed` is assumed of an arbitrary state, not of a reachable one: `disc` may still be clear, and the
environment's `disconnect` has to lower the rank like every other step. -/
theorem s_closed_step {s s' : SState} {t : STid} (hc : s.closed = true)
    (hs : sstep t s = some s') :
    s'.closed = true ∧ srank s' < srank s ∧ s'.mpc.pos ≤ s.mpc.pos := by
  cases s
  cases t <;> simp only [sstep, smain, swatcher] at hs
  all_goals (repeat' split at hs) <;> first | cases hs | skip
  all_goals simp_all [srank, SPc.pos]
  all_goals grind

/-- so `s_rank_decreases` applies along the whole schedule -/
theorem s_closed_stable {s s' : SState} {t : STid} (hc : s.closed = true)
    (hs : sstep t s = some s') : s'.closed = true :=
  (s_closed_step hc hs).1

/-- **C06.S2 termination.** After the disconnect was received (`closed`), every step of every task lowers `srank`; it
is at most 26. -/
theorem s_rank_decreases {s s' : SState} {t : STid} (hc : s.closed = true)
    (hs : sstep t s = some s') : srank s' < srank s :=
  (s_closed_step hc hs).2.1

/-- 26 = 3 · 8 (`SPc.pos_le`) + 1 + 1 -/
theorem s_rank_bounded (s : SState) : srank s ≤ 26 := by
  have := SPc.pos_le s.mpc
  unfold srank
  (repeat' split) <;> omega

/-- Inferred from this one-step statement, stated by no theorem here: after the disconnect was received a `__call__`
below `anext` does not reach it again, and the two positions not below it are left for good by one step, `anext` by
the producer's step (to `send` or `finCancel`), `start` for `loopTest`.  So the producer is stepped at most once
more: the call returns no later than the producer's next step. -/
theorem s_no_new_producer_step {s s' : SState} {t : STid} (hc : s.closed = true)
    (hp : s.mpc.pos < SPc.anext.pos) (hs : sstep t s = some s') : s'.mpc.pos < SPc.anext.pos :=
  Nat.lt_of_le_of_lt (s_closed_step hc hs).2.2 hp

/-- **C06.S3 released.** When `__call__` has returned (or re-raised the producer's exception), the producer's cleanup
ran exactly once, unless the producer was never started; the response's own generator is not left suspended; the
disconnect watcher is finished or has its cancellation pending, i.e. it finishes on the next turn of the loop. -/
theorem s_finished_released {n : Nat} {fails : Bool} {s : SState} (hr : SReachable n fails s)
    (hf : s.mpc = .done) :
    ((s.gen = .fresh ∧ s.cleanups = 0 ∧ s.produced = 0) ∨ (s.gen = .finished ∧ s.cleanups = 1)) ∧
    s.render ≠ .open ∧ (s.wpc = .done ∨ senabled s .watcher = true) := by
  have h := sreachable_inv hr
  have := h.clean
  have := h.rfresh
  have := h.rfin
  have := h.past
  have := h.wlive
  have := h.wend
  have := s.render.exhaust
  have := s.wpc.exhaust
  simp only [senabled, sstep, swatcher]
  grind

theorem s_cleanup_at_most_once {n : Nat} {fails : Bool} {s : SState} (hr : SReachable n fails s) :
    s.cleanups ≤ 1 := by
  have h := (sreachable_inv hr).clean
  split at h <;> omega

/-- **C06.S4 delivered prefix**, and nothing is held back: at most the chunk being sent is missing -/
theorem s_delivered_prefix {n : Nat} {fails : Bool} {s : SState} (hr : SReachable n fails s) :
    s.delivered <+: s.yielded ∧ s.produced ≤ s.delivered.length + 1 := by
  have h := sreachable_inv hr
  have h2 := h.count
  constructor
  · exact Stream.prefix_range h.deliv (by omega)
  · split at h2 <;> omega

/-- non-vacuity: a disconnect after the first of three chunks; the call returns, cleanup ran once -/
example :
    let s := srun [.main, .main, .main, .main, .disconnect, .watcher, .main, .main, .main, .main, .main]
      (sinit 3 false)
    s.mpc = .done ∧ s.closed = true ∧ s.cleanups = 1 ∧ s.delivered = [0] ∧ s.finalSent = 1 ∧
      s.wpc = .done := by decide

/-! ## E — ASGI SendEventResponse (`__call__` + `render_stream` + the relay task `push`) -/

/-- **C06.E1 no deadlock.** Until `__call__` has returned its task has a step, or it waits in
`wait_for(q.get(), ping_interval)` on an empty queue and the ping timeout is pending: the relay can block it for at
most one ping interval. -/
theorem e_no_deadlock (s : EState) (hd : s.mpc ≠ .done) :
    eenabled s .main = true ∨ eenabled s .timer = true := by
  simp only [eenabled, estep, Option.isSome_iff_ne_none, ne_eq, emain_eq_none]
  grind

/-- `erank` is built like `srank` and `wrank` (`s_closed_step`, `Stream.w_closing_step`): `EPc.pos` and `ERPc.base`
number the program points of `__call__` and the suspension points of the relay backwards from their ends.  A step of
`__call__` lowers its position, worth 10, and raises the other summands by at most 3 + 1 + 1 (it empties the queue,
requests the relay's cancellation, creates the watcher).  The relay's loop goes back from `put` (2) to `anext` (3),
paid by the 3 for the empty queue that it fills; a cancellation delivered and a watcher finished pay with their own
summands, `disconnect` with the last. -/
theorem e_closed_step {s s' : EState} {t : ETid} (hc : s.closed = true)
    (hs : estep t s = some s') :
    s'.closed = true ∧ erank s' < erank s ∧ s'.mpc.pos ≤ s.mpc.pos ∧
      (t = .timer → s.mpc = .rsGet ∧ s'.mpc.pos < EPc.rsGet.pos) := by
  cases s
  cases t <;> simp only [estep, emain, rsFinally, ewatcher, erelay, relayFinally] at hs
  all_goals (repeat' split at hs) <;> first | cases hs | skip
  all_goals simp_all [erank, EPc.pos, ERPc.base]
  all_goals grind

theorem e_closed_stable {s s' : EState} {t : ETid} (hc : s.closed = true)
    (hs : estep t s = some s') : s'.closed = true :=
  (e_closed_step hc hs).1

/-- **C06.E2 termination.** After the disconnect was received every step of every task lowers `erank`, the producer's
steps, the relay, the watcher and the firing of the ping timeout included; it is at most 100, whatever the producer. -/
theorem e_rank_decreases {s s' : EState} {t : ETid} (hc : s.closed = true)
    (hs : estep t s = some s') : erank s' < erank s :=
  (e_closed_step hc hs).2.1

/-- 100 = 10 · 9 (`EPc.pos_le`) + 4 (`ERPc.base_le`) + 3 + 1 + 1 + 1 -/
theorem e_rank_bounded (s : EState) : erank s ≤ 100 := by
  have := EPc.pos_le s.mpc
  have := ERPc.base_le s.rpc
  unfold erank
  (repeat' split) <;> omega

/-- Hence "no later than one ping interval": after the disconnect was received at most ONE more ping fires before the
call returns, since it takes the task below `rsGet` (second conjunct), where it stays (first) and where the timeout
is not enabled. -/
theorem e_one_ping {s s' : EState} {t : ETid} (hc : s.closed = true)
    (hs : estep t s = some s') :
    s'.mpc.pos ≤ s.mpc.pos ∧ (t = .timer → s.mpc = .rsGet ∧ s'.mpc.pos < EPc.rsGet.pos) :=
  (e_closed_step hc hs).2.2

/-- **C06.E3 released.** When `__call__` has returned, the response's own generator is not left suspended; the relay
task and the disconnect watcher are each finished or have their cancellation pending (they finish on the next turn of
the loop: `eenabled`); once the relay is finished the producer's cleanup has run exactly once, unless the producer
never started. -/
theorem e_finished_released {n : Nat} {fails : Bool} {s : EState} (hr : EReachable n fails s)
    (hf : s.mpc = .done) :
    s.render ≠ .open ∧
    (s.rpc = .none ∨ s.rpc = .done ∨ eenabled s .relay = true) ∧
    (s.wpc = .done ∨ eenabled s .watcher = true) ∧
    (s.rpc = .none ∨ s.rpc = .done →
      (s.gen = .fresh ∧ s.cleanups = 0 ∧ s.produced = 0) ∨ (s.gen = .finished ∧ s.cleanups = 1)) := by
  have h := (ereachable_inv hr).1
  have := h.clean
  have := h.gnone
  have := h.gdone
  have := h.gfresh
  have := h.rcq
  have := h.spawnA
  have := h.past
  have := h.rfin
  have := h.wlive
  have := h.wend
  have := s.render.exhaust
  have := s.wpc.exhaust
  simp only [eenabled, estep, ewatcher, Option.isSome_iff_ne_none, ne_eq, erelay_eq_none]
  -- a finished relay with a fresh producer was cancelled before it ran: nothing produced
  grind

theorem e_cleanup_at_most_once {n : Nat} {fails : Bool} {s : EState}
    (hr : EReachable n fails s) : s.cleanups ≤ 1 := by
  have h := (ereachable_inv hr).1.clean
  split at h <;> omega

/-- **C06.E3b the iterable is released exactly once.**  The relay has called `aclose()` on the user's iterable at most
once, not at all while it is running, and exactly once when it has finished, unless it was cancelled before it ever
ran (the producer is still fresh).  This covers producers that are iterator OBJECTS (their cleanup is that call),
which `e_finished_released`, stated on the generator's own state, does not. -/
theorem e_aclose_exactly_once {n : Nat} {fails : Bool} {s : EState} (hr : EReachable n fails s) :
    s.acl ≤ 1 ∧ (s.rpc ≠ .done → s.acl = 0) ∧ (s.rpc = .done → s.gen ≠ .fresh → s.acl = 1) := by
  have h := (ereachable_inv hr).1
  have h1 := h.aclLive
  have h2 := h.aclDone
  refine ⟨?_, h1, ?_⟩
  · by_cases hd : s.rpc = .done
    · rcases h2 hd with h | ⟨_, h⟩ <;> omega
    · have := h1 hd; omega
  · intro hd hg
    rcases h2 hd with h | ⟨hf, _⟩
    · exact h
    · exact absurd hf hg

/-- **C06.E4 delivered prefix.** What was sent to the client is a prefix of what the producer yielded (pings are not
items). -/
theorem e_delivered_prefix {n : Nat} {fails : Bool} {s : EState} (hr : EReachable n fails s) :
    s.delivered <+: s.yielded := by
  obtain ⟨h, hd⟩ := ereachable_inv hr
  have h2 := h.sendc
  have := h.takenLe
  exact Stream.prefix_range hd (by split at h2 <;> omega)

/-- **tie to the source**, ASGI side (regenerated from /repo on every run): `__call__` ends with cancel-the-watcher then
`aclose()`; the event stream's consumer `finally` is flag, drain, cancel / exception, without an `await`, hence
atomic; the relay ends with `put(None)` then `aclose()`; one-slot queue. -/
theorem asgi_source_pinned :
    Gen.Stream.asgiCallFinally = ["cancel", "aclose"] ∧
    Gen.Stream.asgiStreamFinally = ["if()[aclose]"] ∧
    Gen.Stream.asgiConsumerFinally =
      ["flag", "while(empty)[get_nowait]", "if(cancel)[exception;if()[raise]]"] ∧
    Gen.Stream.asgiRelayFinally = ["try[put]finally[if()[aclose]]"] ∧
    Gen.Stream.asgiQueueMaxsize = 1 := by
  decide

/-- disconnect while the relay is blocked in `q.put(item)` (one item queued, one in hand): the consumer's finally
drains and cancels, the relay receives CancelledError inside the put, puts the sentinel into the drained queue and
closes the producer; everything is released -/
example :
    let s := erun [.main, .main, .main, .relay, .relay, .relay, .main, .relay, .relay,
      .disconnect, .watcher, .main, .main, .main, .main, .main, .relay] (einit 5 false)
    s.mpc = .done ∧ s.closed = true ∧ s.rpc = .done ∧ s.wpc = .done ∧ s.cleanups = 1 ∧
      s.gen = .finished ∧ s.delivered = [0] ∧ s.produced = 3 := by decide

/-- one step earlier: `__call__` has returned, the relay's cancellation is pending (E3: `eenabled s .relay`) -/
example :
    let s := erun [.main, .main, .main, .relay, .relay, .relay, .main, .relay, .relay,
      .disconnect, .watcher, .main, .main, .main, .main, .main] (einit 5 false)
    s.mpc = .done ∧ s.rpc = .put ∧ s.rcancel = true ∧ eenabled s .relay = true ∧ s.cleanups = 0 := by
  decide

/-- a blocked producer (the relay never gets a turn): after the disconnect ONE ping wakes the call up and it returns;
the cancelled relay never started -/
example :
    let s := erun [.main, .main, .main, .main, .disconnect, .watcher, .timer, .main, .main, .main,
      .main, .main, .relay] (einit 2 false)
    s.mpc = .done ∧ s.pings = 1 ∧ s.rpc = .done ∧ s.gen = .fresh ∧ s.cleanups = 0 := by decide

/-- the relay blocked in the sentinel put of its `finally` when the disconnect arrives: the cancellation lands inside
that put, and the inner `finally` still calls `aclose()` on the user's iterable (before /repo `9efa28d` it was
skipped: harmless for a generator that had finished by itself, a leak for an iterator object whose cleanup is its
`aclose()`) -/
example :
    let s := erun [.main, .main, .main, .relay, .relay, .relay, .main, .relay, .relay, .main,
      .disconnect, .watcher, .main, .main, .main, .main, .relay] (einit 2 false)
    s.mpc = .done ∧ s.rpc = .done ∧ s.cleanups = 1 ∧ s.q = .empty ∧ s.delivered = [0] ∧ s.acl = 1 := by
  decide

/-- non-vacuity: a finished relay over a started producer (closed by the response, mid-stream) -/
example :
    let s := erun [.main, .main, .main, .relay, .relay, .relay, .main, .relay, .relay,
      .disconnect, .watcher, .main, .main, .main, .main, .main, .relay] (einit 5 false)
    s.rpc = .done ∧ s.gen = .finished ∧ s.acl = 1 ∧ s.cleanups = 1 := by
  decide

end Baize.StreamAsgi

namespace Baize.StreamWsgi

/-- **C06 (WSGI StreamResponse)** for every producer length `n`, ending `fails` and number `k` of chunks the server
reads before it closes the iterable: the chunks delivered are the first `min n k` items, in order; the producer was
stepped exactly that often (the close returns WITHOUT another producer step); the response iterable is finished; a
producer that was started is finished and its cleanup ran exactly once, one that was never started (the server
closed at once) ran no code at all; the call ends by the close iff `k ≤ n`, by the producer's own exception iff it
fails and the server read past the end, normally otherwise. -/
theorem ws_stream_terminates_and_releases (n k : Nat) (fails : Bool) :
    let res := run n k fails
    res.1.delivered = List.range (min n k) ∧ res.1.gen.produced = min n k ∧ res.1.outerDone = true ∧
    (res.1.gen.started = true → res.1.gen.finished = true ∧ res.1.gen.cleanups = 1) ∧
    (res.1.gen.started = false → res.1.gen.cleanups = 0 ∧ min n k = 0) ∧
    (res.2 = .closed ↔ k ≤ n) ∧ (res.2 = .raised ↔ (n < k ∧ fails = true)) ∧
    (res.2 = .ended ↔ (n < k ∧ fails = false)) := by
  have h := serve_spec n fails k 0 _ (open_init n fails)
  simp only [Nat.zero_add] at h
  obtain ⟨hf, h1, h2, h3⟩ := h
  exact ⟨hf.hd, hf.hp, hf.hod, hf.hrel, hf.hun, h1, h2, h3⟩

example : (run 3 1 false).1.delivered = [0] ∧ (run 3 1 false).1.gen.cleanups = 1 ∧ (run 3 1 false).2 = .closed := by
  decide
example : (run 3 0 true).1.gen.started = false ∧ (run 3 0 true).1.gen.cleanups = 0 := by decide
example : (run 2 5 true).2 = .raised ∧ (run 2 5 true).1.delivered = [0, 1] ∧ (run 2 5 true).1.gen.cleanups = 1 := by
  decide

end Baize.StreamWsgi
