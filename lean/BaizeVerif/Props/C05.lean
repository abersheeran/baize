/-
C05 — every response obeys the server-gateway protocol: the traces of `wsgiRun` / `asgiRun`
(`Model/Gateway.lean`) against the specification of `Lemmas/Gateway.lean`.

  recipe  = response class × status × constructor headers × cookies × content / chunks / events /
            file + request (method, Range, If-Range, zero-copy extension)
  fault   = none | client disconnect at any point | the producer raises at any item |
            `send` / `start_response` raises at any call

Every theorem quantifies over ALL recipes (any header / cookie / chunk / event lists, any file
size, chunk size, Range header) and, where a fault appears, over ALL fault points.
-/
import BaizeVerif.Lemmas.Gateway

namespace Baize.Gateway

open Cookie (Str dictSet dictGet)
open Headers (Hdrs)

def exCookie : Cookie.CookieRec :=
  ⟨Cookie.strCps "k;x", Cookie.strCps "line\r\nbreak", none, 3600, Cookie.strCps "example.org", [47], true, false,
    Cookie.strCps "none"⟩

/-- `HTMLResponse("caf\xe9", 299, headers={"X-Mixed": "1", "x-mixed": "2"})` plus a cookie -/
def exSmall : Recipe :=
  { status := 299, headers := [(Cookie.strCps "X-Mixed", [49]), (Cookie.strCps "x-mixed", [50])],
    cookies := [exCookie], kind := .small .html [] [] (.text [99, 97, 102, 233]) }

def exStream : Recipe :=
  { status := 200, headers := [], cookies := [], kind := .stream none [.chunk [1], .chunk [], .chunk [2, 3]] }

/-- a 12-byte file called `中文.bin`, `Range: bytes=0-0,9-10`, chunk size 4 -/
def exFile (zc : Bool) (range : Option Bytes) : Recipe :=
  { status := 200, headers := [(Cookie.strCps "ETag", [109])], cookies := [],
    kind := .file { headOnly := false, range := range, ifRange := none, chunk := 4, ctArg := [],
                    guessed := [], downloadName := [], baseName := [20013, 25991, 46, 98, 105, 110],
                    stat := ⟨12, Cookie.strCps "Tue, 14 Nov 2023 22:13:20 GMT", Cookie.strCps "abc"⟩, zerocopy := zc } }

def exMultiRange : Bytes := Cookie.strCps "bytes=0-0,9-10"
def exBadRange : Bytes := Cookie.strCps "bytes=20-"

/-- What the model takes from the source, as extracted on this run: the types and keys of the two helper messages;
an argument-less `send_http_body` is the final empty body (`b''`, as is the one chunk of WSGI's bodiless `Response`:
`planEmpty` uses `emptyBodyChunk_wsgi` for both); `list_headers` encodes key, value and cookie line with latin-1; the
range-error path of ASGI lower-cases the names before encoding them, the WSGI one hands the items over as they are;
the two interfaces use the same header names and rules. -/
theorem source_pinned :
    Gen.Gateway.startType = "http.response.start" ∧ Gen.Gateway.bodyType = "http.response.body" ∧
    Gen.Gateway.startKeys = ["status", "headers"] ∧
    Gen.Gateway.bodyKeys = [("body", "body"), ("more_body", "more_body")] ∧
    Gen.Gateway.bodyDefaults = [("body", "b''"), ("more_body", "False")] ∧
    Gen.Gateway.headerCodecs = ["latin-1", "latin-1"] ∧ Gen.Gateway.cookieCodec = "latin-1" ∧
    Gen.Gateway.asgiErrorLowersName = true ∧ Gen.Gateway.asgiErrorCodecs = ["latin-1", "latin-1"] ∧
    Gen.Gateway.wsgiErrorRawItems = true ∧ Gen.Gateway.errorBodyCodec = "utf8" ∧
    Gen.Gateway.setCookieNameBytes = Gen.Gateway.setCookieNameStr ∧
    Gen.Gateway.smallLengthName_asgi = Gen.Gateway.smallLengthName_wsgi ∧
    Gen.Gateway.smallTypeName_asgi = Gen.Gateway.smallTypeName_wsgi ∧
    Gen.Gateway.textPrefix_asgi = Gen.Gateway.textPrefix_wsgi ∧
    Gen.Gateway.charsetJoin_asgi = Gen.Gateway.charsetJoin_wsgi ∧
    Gen.Gateway.defaultCharset_asgi = Gen.Gateway.defaultCharset_wsgi ∧
    Gen.Gateway.streamTypeKey_asgi = Gen.Gateway.streamTypeKey_wsgi ∧
    Gen.Gateway.streamDefaultType_asgi = Gen.Gateway.streamDefaultType_wsgi ∧
    Gen.Gateway.fileDefaultType_asgi = Gen.Gateway.fileDefaultType_wsgi ∧
    Gen.Gateway.emptyBodyChunk_wsgi = [] ∧ Gen.Gateway.dispositionSafe = [47] := by
  decide

/-- **C05.1** `StatusStringMapping[code]` is `NNN reason` — three digits, a blank, a non-empty
printable reason — for EVERY code 100 … 999: the codes of the generated `HTTPStatus` table get
their phrase, every other code the generated fallback text. -/
theorem status_line_ok (code : Nat) (h1 : 100 ≤ code) (h2 : code ≤ 999) : StatusLineOk (statusLine code) :=
  statusLine_ok code h1 h2

example : statusLine 200 = Cookie.strCps "200 OK" ∧ statusLine 299 = Cookie.strCps "299 Unknown Status Code" ∧
    statusLine 999 = Cookie.strCps "999 Unknown Status Code" ∧
    statusLine 416 = Cookie.strCps "416 Requested Range Not Satisfiable" := by decide +kernel

/-- outside the statement's range the line is not `NNN reason` (the hypothesis is needed) -/
theorem wf_status_needed_witness : ¬ StatusLineOk (statusLine 99) ∧ ¬ StatusLineOk (statusLine 1000) := by
  have e1 : (statusLine 99).take 3 = [57, 57, 32] := by decide +kernel
  have e2 : (statusLine 1000).take 4 = [49, 48, 48, 48] := by decide +kernel
  constructor
  · rintro ⟨a, b, c, reason, h, _, _, hc, _⟩
    rw [h] at e1
    simp only [List.take_succ_cons, List.take_zero, List.cons.injEq, and_true] at e1
    unfold IsDigit at hc
    omega
  · rintro ⟨a, b, c, reason, h, _, _, _, _, _⟩
    rw [h] at e2
    simp only [List.take_succ_cons, List.take_zero, List.cons.injEq, and_true] at e2
    omega

/-- **C05.2** the headers `SendEventResponse` adds by itself on WSGI contain no hop-by-hop name,
while the ASGI twin's do (`Connection: keep-alive` — legal there; the decision is visible in
`required_headers` of the two files, regenerated on every run). -/
theorem required_headers_not_hop_by_hop :
    (∀ kv ∈ Gen.SSE.wsgiRequiredHeaders, asciiLower kv.1 ∉ hopByHop) ∧
    (∃ kv ∈ Gen.SSE.asgiRequiredHeaders, asciiLower kv.1 ∈ hopByHop) := by
  decide +kernel

/-- **C05.3** for every file name and download name that is text (no lone surrogate), of any
code points — CJK, quote, backslash, CR, LF, NUL —, `generate_common_headers` succeeds and the
Content-Disposition value is printable ASCII. -/
theorem disposition_value_ok (ct : Str) (f : FileSpec) (hd : Encodable f.downloadName) (hb : Encodable f.baseName) :
    ∃ d, disposition ct f = some d ∧ ∀ kv ∈ d, Printable kv.2 := by
  obtain ⟨d, h1, _, h3⟩ := disposition_ok .wsgi ct f hd hb
  exact ⟨d, h1, h3⟩

/-- `download_name='中"\\r\\n.bin'` -/
def exDisp : FileSpec :=
  { headOnly := false, range := none, ifRange := none, chunk := 1, ctArg := [], guessed := [],
    downloadName := [20013, 34, 13, 10, 46, 98, 105, 110], baseName := [120], stat := ⟨0, [], []⟩, zerocopy := false }

example : disposition [] exDisp =
    some [(Cookie.strCps "content-disposition",
      Cookie.strCps "attachment; filename=\"____.bin\"; filename*=utf-8''%E4%B8%AD%22%0D%0A.bin")] := by
  decide +kernel

/-- **C05.4a** WSGI: for every well-formed recipe of every class, whatever reaches
`start_response` as header list — mapping items and Set-Cookie lines, or the raw items of the
range-error path — consists of pairs over code points < 256 without CR, LF, NUL and without a
hop-by-hop name. -/
theorem wsgi_headers_ok (r : Recipe) (st : Hdrs) (p : Planned) (h : WF .wsgi r)
    (hc : construct .wsgi r = .ok st) (hp : plan .wsgi r st = .ok p) :
    ∀ kv ∈ wsgiHeaders r p, WsgiHeaderOk kv :=
  (wsgiStart_ok h (plan_ok h hc hp)).2

/-- **C05.4b** ASGI: for every well-formed recipe of every class the header list can be encoded
(no `UnicodeEncodeError`), every name is a lower-case byte string and every value a byte string —
on the range-error path too (`range_error_names_lower`). -/
theorem asgi_headers_ok (r : Recipe) (st : Hdrs) (p : Planned) (h : WF .asgi r)
    (hc : construct .asgi r = .ok st) (hp : plan .asgi r st = .ok p) :
    ∃ hs, asgiHeaders r p = some hs ∧ ∀ kv ∈ hs, AsgiHeaderOk kv :=
  asgiStart_ok h (plan_ok h hc hp)

/-- **C05.4c** the names the range-error path starts from are not lower-case — the lower-casing
on the ASGI side (`asgiErrorLowersName_eq`) is what makes `asgi_headers_ok` true there (design §6 #10) -/
theorem range_error_names_lower :
    ¬ IsLowerName Gen.FileResponse.unsatHeaderName ∧
    IsLowerName (Headers.lower Gen.FileResponse.unsatHeaderName) ∧ Gen.Gateway.asgiErrorLowersName = true := by
  refine ⟨?_, isLower_lower _, asgiErrorLowersName_eq⟩
  intro h
  exact h 67 (by decide) (by omega)

theorem fileGone_none (i : Iface) (r : Recipe) (st : Hdrs) : fileGone .none i r st = false := rfl
theorem fileGone_disconnect (k : Nat) (i : Iface) (r : Recipe) (st : Hdrs) :
    fileGone (.disconnect k) i r st = false := rfl
theorem fileGone_send (k : Nat) (i : Iface) (r : Recipe) (st : Hdrs) :
    fileGone (.send k) i r st = false := rfl

/-- **C05.5a** WSGI: every well-formed recipe whose content renders and whose producer does not
raise constructs, and its trace is legal: `start_response` exactly once and first, a status line
`NNN reason`, legal header pairs, then only yielded bytes. -/
theorem wsgi_legal (r : Recipe) (h : WF .wsgi r) (hq : Quiet .wsgi r) :
    ∃ t, wsgiRun .none r = .trace t ∧ LegalWsgi t := by
  obtain ⟨st, hc, hm⟩ := construct_ok .wsgi r h
  exact ⟨_, by simp [wsgiRun, hc, fileGone_none], wsgiCall_legal h hm hq⟩

/-- **C05.5b** ASGI: every such recipe constructs, and its trace is legal: exactly one start
with lower-case byte header names, then at least one body / zero-copy event, `more_body` false on
the last and only there, zero-copy messages only when the extension was advertised. -/
theorem asgi_legal (r : Recipe) (h : WF .asgi r) (hq : Quiet .asgi r) :
    ∃ t, asgiRun .none r = .trace t ∧ LegalAsgi (zcOf r) t := by
  obtain ⟨st, hc, hm⟩ := construct_ok .asgi r h
  exact ⟨_, by simp [asgiRun, hc, fileGone_none], asgiCall_legal h hm hq (.inl rfl)⟩

theorem exSmall_wf : WF .wsgi exSmall ∧ Quiet .wsgi exSmall := by
  refine ⟨⟨fun _ => by decide, ?_, ?_, ⟨textOk_nil, textOk_nil⟩⟩, ⟨[99, 97, 102, 195, 169], by rfl⟩⟩
  · unfold TextOk; decide +kernel
  · unfold WFCookie Printable; decide +kernel

example : wsgiRun .none exSmall = .trace
      [.startResponse (Cookie.strCps "299 Unknown Status Code")
        [(Cookie.strCps "x-mixed", Cookie.strCps "1, 2"), (Cookie.strCps "content-length", [53]),
         (Cookie.strCps "content-type", Cookie.strCps "text/html; charset=utf-8"),
         (Cookie.strCps "set-cookie", Cookie.strCps
           "\"k\\073x\"=\"line\\015\\012break\"; max-age=3600; domain=example.org; path=/; httponly; secure; samesite=none")],
       .yield [99, 97, 102, 195, 169]] := by
  decide +kernel

theorem exFile_wf (zc : Bool) (range : Option Bytes) : WF .asgi (exFile zc range) ∧ Quiet .asgi (exFile zc range) := by
  refine ⟨⟨fun h => (by cases h), ?_, (by intro c hc; cases hc), ?_⟩, trivial⟩
  · unfold exFile; dsimp only; unfold TextOk; decide +kernel
  · unfold exFile WFKind; dsimp only; unfold TextOk
    refine ⟨by decide, by decide, by decide +kernel, by decide +kernel, by decide, ⟨[], rfl⟩, ⟨_, by rfl⟩⟩

example : asgiRun .none (exFile true (some exMultiRange)) = .trace
      [.start 206
        [(Cookie.strCps "etag", Cookie.strCps "\"abc\""), (Cookie.strCps "accept-ranges", Cookie.strCps "bytes"),
         (Cookie.strCps "last-modified", Cookie.strCps "Tue, 14 Nov 2023 22:13:20 GMT"),
         (Cookie.strCps "content-disposition",
            Cookie.strCps "attachment; filename=\"__.bin\"; filename*=utf-8''%E4%B8%AD%E6%96%87.bin"),
         (Cookie.strCps "content-type", Cookie.strCps "multipart/byteranges; boundary=dkry5cjqx4bip"),
         (Cookie.strCps "content-length", Cookie.strCps "192")],
       .body (Cookie.strCps "--dkry5cjqx4bip\nContent-Type: application/octet-stream\nContent-Range: bytes 0-0/12\n\n") true,
       .zerocopy (some 0) (some 1) true, .body [10] true,
       .body (Cookie.strCps "--dkry5cjqx4bip\nContent-Type: application/octet-stream\nContent-Range: bytes 9-10/12\n\n") true,
       .zerocopy (some 9) (some 2) true, .body [10] true,
       .body (Cookie.strCps "--dkry5cjqx4bip--\n") false] := by
  decide +kernel

/-- the range-error answer: the name is lower-case -/
example : asgiRun .none (exFile false (some exBadRange)) = .trace
    [.start 416 [(Cookie.strCps "content-range", Cookie.strCps "*/12")], .body [] false] := by decide +kernel

/-- **C05.6a** WSGI, EVERY fault point: the server stops after any number of items and closes
the iterable, the producer raises at any item, `start_response` raises — for every well-formed
recipe (quiet or not: content that cannot be rendered, a producer that raises by itself) what the
server received can be continued to a legal conversation.  From the modelled structure: generator
functions call `start_response` at the first `next()`, `Response.__call__` at the call; an
exception ends the iteration. -/
theorem wsgi_fault_prefix_legal (r : Recipe) (fault : Fault) (h : WF .wsgi r) :
    ∃ t, wsgiRun fault r = .trace t ∧ PrefixLegalWsgi t := by
  obtain ⟨st, hc, hm⟩ := construct_ok .wsgi r h
  refine ⟨_, by rw [wsgiRun, hc], ?_⟩
  -- the vanished file: the part of the fault-free conversation before the `open`, then the error
  split
  · exact prefixLegalWsgi_gone (wsgiCall_prefix h hm .none)
  · exact wsgiCall_prefix h hm fault

/-- **C05.6b** ASGI, EVERY fault point: the disconnect is noticed at any loop test, the producer
raises at any item, any call of `send` raises — for every well-formed recipe the messages the
server accepted can be continued to a legal conversation.  From the modelled structure: every
path is a straight sequence of sends whose `finally` only closes the descriptor; the streaming
loop's `finally` cancels the watcher and closes the generator without sending, and the final
empty body is sent only when no exception is on its way. -/
theorem asgi_fault_prefix_legal (r : Recipe) (fault : Fault) (h : WF .asgi r) :
    ∃ t, asgiRun fault r = .trace t ∧ PrefixLegalAsgi (zcOf r) t := by
  obtain ⟨st, hc, hm⟩ := construct_ok .asgi r h
  refine ⟨_, by rw [asgiRun, hc], ?_⟩
  split
  · exact prefixLegalAsgi_gone (asgiCall_prefix h hm .none)
  · exact asgiCall_prefix h hm fault

/-- the file that has gone since the response was constructed: on either interface the start, then the error of
`open` - and nothing else, in particular no second start; a HEAD request or a rejected Range never opens the file -/
example : (match asgiRun (.producer 0) (exFile false (some exMultiRange)) with
    | .trace [.start 206 _, .raise k] => k == fileGoneKind
    | _ => false) = true := by decide +kernel

example : (match wsgiRun (.producer 0) (exFile false none) with
    | .trace [.startResponse _ _, .raise k] => k == fileGoneKind
    | _ => false) = true := by decide +kernel

example : asgiRun (.producer 0) (exFile false (some exBadRange)) = asgiRun .none (exFile false (some exBadRange)) := by
  decide +kernel

/-- **C05.6c** a client disconnect is not an error on ASGI: whenever it is noticed, a quiet
streaming response still completes its conversation (start, the chunks sent so far, the final
empty body with `more_body` false) — and the other classes never look at `receive`. -/
theorem asgi_disconnect_completes (r : Recipe) (k : Nat) (h : WF .asgi r) (hq : Quiet .asgi r) :
    ∃ t, asgiRun (.disconnect k) r = .trace t ∧ LegalAsgi (zcOf r) t := by
  obtain ⟨st, hc, hm⟩ := construct_ok .asgi r h
  exact ⟨_, by simp [asgiRun, hc, fileGone_disconnect], asgiCall_legal h hm hq (.inr ⟨k, rfl⟩)⟩

theorem exStream_wf : WF .asgi exStream ∧ WF .wsgi exStream ∧ Quiet .asgi exStream ∧ Quiet .wsgi exStream := by
  have hk : WFKind exStream.kind := by intro t ht; cases ht
  have hq : ∀ it ∈ [Item.chunk [1], Item.chunk [], Item.chunk [2, 3]], ∃ b, it = Item.chunk b := by
    intro it hit
    simp only [List.mem_cons, List.mem_nil_iff, or_false] at hit
    rcases hit with rfl | rfl | rfl <;> exact ⟨_, rfl⟩
  exact ⟨⟨fun h => (by cases h), (by intro kv h; cases h), (by intro c h; cases h), hk⟩,
    ⟨fun _ => (by decide), (by intro kv h; cases h), (by intro c h; cases h), hk⟩, hq, hq⟩

/-- every fault of a three-chunk stream: the disconnect noticed after two chunks still ends the
conversation properly; a producer that raises at item 1 and a `send` that raises at call 2 leave
legal prefixes -/
example : asgiRun (.disconnect 3) exStream = .trace
      [.start 200 [(Cookie.strCps "content-type", Cookie.strCps "application/octet-stream")],
       .body [1] true, .body [] true, .body [] false] ∧
    asgiRun (.producer 1) exStream = .trace
      [.start 200 [(Cookie.strCps "content-type", Cookie.strCps "application/octet-stream")],
       .body [1] true, .raise "Boom"] ∧
    asgiRun (.send 2) exStream = .trace
      [.start 200 [(Cookie.strCps "content-type", Cookie.strCps "application/octet-stream")],
       .body [1] true, .raise "OSError"] ∧
    wsgiRun (.disconnect 2) exStream = .trace
      [.startResponse (Cookie.strCps "200 OK") [(Cookie.strCps "content-type", Cookie.strCps "application/octet-stream")],
       .yield [1], .yield []] ∧
    wsgiRun (.disconnect 0) exStream = .trace [] ∧
    wsgiRun (.send 0) exStream = .trace [.raise "OSError"] := by
  decide +kernel

/-- a constructor header with CR LF is stored raw by `Headers.__init__` and reaches
`start_response`: the conversation is not legal -/
theorem wf_headers_needed_witness :
    ∃ t, wsgiRun .none { status := 200, headers := [([120], [97, 13, 10, 98])], cookies := [], kind := .empty }
        = .trace t ∧ ¬ LegalWsgi t := by
  refine ⟨[.startResponse (Cookie.strCps "200 OK") [([120], [97, 13, 10, 98]), (Cookie.strCps "content-length", [48])],
    .yield []], by decide +kernel, ?_⟩
  rintro ⟨_, hh, _⟩
  have := (hh ([120], [97, 13, 10, 98]) List.mem_cons_self).2.1 13 (by simp)
  omega

/-- a cookie value beyond Latin-1 is copied verbatim into the Set-Cookie line: on ASGI
`bytes(cookie)` raises before anything is sent, on WSGI the line is not a Latin-1 native string -/
theorem wf_cookie_needed_witness :
    asgiRun .none { status := 200, headers := [], kind := .empty,
                    cookies := [⟨[97], [20013], none, -1, [], [47], false, false, Cookie.strCps "lax"⟩] }
      = .trace [.raise "UnicodeEncodeError"] ∧
    ∃ t, wsgiRun .none { status := 200, headers := [], kind := .empty,
                         cookies := [⟨[97], [20013], none, -1, [], [47], false, false, Cookie.strCps "lax"⟩] }
        = .trace t ∧ ¬ LegalWsgi t := by
  refine ⟨by decide +kernel, [.startResponse (Cookie.strCps "200 OK")
    [(Cookie.strCps "content-length", [48]),
     (Cookie.strCps "set-cookie", [97, 61, 34, 20013, 34] ++ Cookie.strCps "; path=/; samesite=lax")], .yield []],
    by decide +kernel, ?_⟩
  rintro ⟨_, hh, _⟩
  have := (hh _ (List.mem_cons_of_mem _ List.mem_cons_self)).2.1 20013 (by simp [Cookie.strCps])
  omega

end Baize.Gateway
