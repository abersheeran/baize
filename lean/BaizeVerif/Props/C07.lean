/-
C07 — static-file apps serve exactly the files inside their directory, nothing else.

The theorems (C07.0, `ensure_spec`, stands in `Lemmas/Static.lean`) are about `Baize.Static.serve`
(`Model/Static.lean`), the executable model of `Files.__call__` / `Pages.__call__` with
`BaseFiles.ensure_absolute_path` and `check_path_is_file`.  They hold for every request path (any list of
code points), every file system `fs : FS` (any function from locations to nodes, no well-formedness
assumed), every current directory and both interfaces.

Shared setting: the app serves the directory at the location `D` (`cfg.dir = render D`), a non-empty list
of ordinary segment names — i.e. `self.directory` is a normalised absolute path other than the
file-system root, which is what `normalize_dir_path` produces.  `resolve D path`, lexical resolution, is
defined in `Lemmas/Static.lean` with the rest of the vocabulary, without reference to the model; the proofs
go through `serve_files` and `serve_pages` there.
-/
import BaizeVerif.Lemmas.Static

namespace Baize.Static

instance (s : Str) : Decidable (Ordinary s) := by unfold Ordinary; infer_instance

/-- **C07.1** confinement: every path handed to `os.stat` or `open` is the path of the directory or of a
location below it, spelled with ordinary segment names only (so the operating system can not be led out
again by `.`/`..`), and the file-system location it denotes lies below `D`. -/
theorem confinement (cfg : Cfg) {D : List Str} (hD : ∀ s ∈ D, Ordinary s) (hD0 : D ≠ [])
    (hdir : cfg.dir = render D) (fs : FS) (path : Str) :
    ∀ a ∈ (serve cfg fs path).log,
      Inside D a.path ∧ D <+: segsOf a.path ∧ render D <+: a.path := by
  have hR := resolve_ordinary hD path
  have fin : ∀ S : List Str, (∀ s ∈ S, Ordinary s) → D <+: S → ∀ x, x = render S ∨ x = render S ++ [47] →
      Inside D x ∧ D <+: segsOf x ∧ render D <+: x := by
    rintro _ hS ⟨rest, rfl⟩ x hx
    have hin : Inside D x := ⟨rest, (List.forall_mem_append.mp hS).2, hx⟩
    exact ⟨hin, hin.segs_prefix hD, hin.string_prefix hD0⟩
  intro a ha
  cases hp : cfg.pages with
  | false =>
    obtain ⟨hpre, h⟩ := (serve_files cfg hp hD hdir fs path).2 a ha
    exact fin _ hR hpre _ h
  | true =>
    obtain ⟨hpre, h⟩ := (serve_pages cfg hp hD hD0 hdir fs path).2 a ha
    have hP := primary_ordinary path hR
    have hpP := prefix_primary path hpre
    rcases h with h | h
    · exact fin _ hP hpP _ (Or.inl h)
    · exact fin _ (chosen_ordinary fs D hP) (prefix_chosen fs hpP) _ (Or.inl h)

/-- **C07.2 (Files)** `Files` answers with a file exactly when the request path has no
trailing slash, resolves lexically to a location at or below `D`, and that location
holds a regular file (whose name the OS accepts); the body is that file's content. -/
theorem files_serves_iff (cfg : Cfg) (hp : cfg.pages = false) {D : List Str}
    (hD : ∀ s ∈ D, Ordinary s) (hD0 : D ≠ []) (hdir : cfg.dir = render D) (fs : FS)
    (path : Str) (c : List Nat) :
    (serve cfg fs path).resp = .file c ↔
      D <+: resolve D path ∧ keepSlash path = false ∧
        Servable (render (resolve D path)) ∧ fs (resolve D path) = .file c := by
  rw [(serve_files cfg hp hD hdir fs path).1]
  by_cases h : D <+: resolve D path ∧ keepSlash path = false
  · rw [if_pos h, ← chkAt_reg (resolve_ordinary hD path) (h.1.ne_nil hD0)]
    cases chkAt fs (resolve D path) <;> simp [h]
  · rw [if_neg h]
    simp only [reduceCtorEq, false_iff]
    exact fun h' => h ⟨h'.1, h'.2.1⟩

/-- **C07.2 (Files), otherwise**: `Files` answers with a file or with 404, never with anything else (no
exception leaves the app). -/
theorem files_otherwise_404 (cfg : Cfg) (hp : cfg.pages = false) {D : List Str}
    (hD : ∀ s ∈ D, Ordinary s) (hdir : cfg.dir = render D) (fs : FS) (path : Str) :
    (serve cfg fs path).resp = .notFound ∨ ∃ c, (serve cfg fs path).resp = .file c := by
  rw [(serve_files cfg hp hD hdir fs path).1]
  split
  · split
    · exact Or.inr ⟨_, rfl⟩
    · exact Or.inl rfl
  · exact Or.inl rfl

/-- **C07.2 (Pages)** whatever `Pages` serves is the content of a regular file at or
below `D` obtained from the lexical resolution `R` of the request path: after a
trailing slash it is `R/index.html`; otherwise it is `R` itself or — only when `R`
is not the directory itself — `R` with `.html` appended to its last name. -/
theorem pages_serves_lexical (cfg : Cfg) (hp : cfg.pages = true) {D : List Str}
    (hD : ∀ s ∈ D, Ordinary s) (hD0 : D ≠ []) (hdir : cfg.dir = render D) (fs : FS)
    (path : Str) (c : List Nat) (h : (serve cfg fs path).resp = .file c) :
    D <+: resolve D path ∧
      (if keepSlash path then fs (resolve D path ++ [Gen.Static.indexName]) = .file c
       else fs (resolve D path) = .file c ∨
            (resolve D path ≠ D ∧ fs (appendLast (resolve D path) Gen.Static.htmlSuffix) = .file c)) := by
  have hR := resolve_ordinary hD path
  rw [(serve_pages cfg hp hD hD0 hdir fs path).1] at h
  by_cases hpre : D <+: resolve D path
  · rw [if_pos hpre, chkResp_file] at h
    have hP := primary_ordinary path hR
    have hpP := prefix_primary path hpre
    have hfile := ((chkAt_reg (chosen_ordinary fs D hP) ((prefix_chosen fs hpP).ne_nil hD0) c).mp h).2
    refine ⟨hpre, ?_⟩
    unfold primary at hfile
    cases hk : keepSlash path
    · rw [hk] at hfile
      simp only [Bool.false_eq_true, if_false] at hfile ⊢
      rcases chosen_eq fs D (resolve D path) with e | ⟨hne, e⟩ <;> rw [e] at hfile
      · exact Or.inl hfile
      · exact Or.inr ⟨hne, hfile⟩
    · rw [hk, if_pos rfl, chosen_index fs D (hpre.ne_nil hD0)] at hfile
      simpa using hfile
  · rw [if_neg hpre] at h
    cases h

/-- **C07.3** completeness: every regular file at a location `D ++ q` below (or at) the
directory whose names are ordinary (and acceptable to the OS) is served, with its
content, at its own path `/q₁/…/qₙ` — by both apps.  In particular names that start
with dots (`..name`, `...`, `.hid`) or contain `%2e%2e` are served. -/
theorem completeness (cfg : Cfg) {D : List Str} (hD : ∀ s ∈ D, Ordinary s) (hD0 : D ≠ [])
    (hdir : cfg.dir = render D) (fs : FS) (q : List Str) (hq : ∀ s ∈ q, Ordinary s)
    (c : List Nat) (hfile : fs (D ++ q) = .file c) (hserv : Servable (render (D ++ q))) :
    (serve cfg fs (urlOf q)).resp = .file c := by
  have hall := List.forall_mem_append.mpr ⟨hD, hq⟩
  have hreg : chkAt fs (D ++ q) = .reg c := (chkAt_reg hall (by simp [hD0]) c).mpr ⟨hserv, hfile⟩
  cases hp : cfg.pages with
  | false =>
    rw [files_serves_iff cfg hp hD hD0 hdir, resolve_urlOf hq]
    exact ⟨List.prefix_append _ _, keepSlash_urlOf hq, hserv, hfile⟩
  | true =>
    rw [serve_pages_urlOf cfg hp hD hD0 hdir fs hq, chosen, if_neg (by simp [hreg]), hreg]
    rfl

/-- **C07.4a** a directory URL without trailing slash is redirected to the same URL + `/`
(the request path being text, i.e. free of surrogate code points). -/
theorem pages_dir_redirect (cfg : Cfg) (hp : cfg.pages = true) {D : List Str}
    (hD : ∀ s ∈ D, Ordinary s) (hD0 : D ≠ []) (hdir : cfg.dir = render D) (fs : FS)
    (q : List Str) (hq : ∀ s ∈ q, Ordinary s) (hdirq : fs (D ++ q) = .dir)
    (hserv : Servable (render (D ++ q))) (htext : (urlOf q).any isSurrogate = false) :
    (serve cfg fs (urlOf q)).resp = .redirect (urlOf q ++ [47]) := by
  have hall := List.forall_mem_append.mpr ⟨hD, hq⟩
  have hst : chkAt fs (D ++ q) = .other := (chkAt_other hall (by simp [hD0])).mpr ⟨hserv, hdirq⟩
  rw [serve_pages_urlOf cfg hp hD hD0 hdir fs hq, chosen, if_neg (by simp [hst]), hst]
  simp [chkResp, redirectTo, htext]

/-- **C07.4b** the directory URL with trailing slash serves that directory's `index.html`. -/
theorem pages_dir_index (cfg : Cfg) (hp : cfg.pages = true) {D : List Str}
    (hD : ∀ s ∈ D, Ordinary s) (hD0 : D ≠ []) (hdir : cfg.dir = render D) (fs : FS)
    (q : List Str) (hq : ∀ s ∈ q, Ordinary s) (c : List Nat)
    (hidx : fs (D ++ q ++ [Gen.Static.indexName]) = .file c)
    (hserv : Servable (render (D ++ q ++ [Gen.Static.indexName]))) :
    (serve cfg fs (urlOf q ++ [47])).resp = .file c := by
  have hall : ∀ s ∈ D ++ q ++ [Gen.Static.indexName], Ordinary s :=
    List.forall_mem_append.mpr ⟨List.forall_mem_append.mpr ⟨hD, hq⟩, by simpa using ordinary_index⟩
  have hreg : chkAt fs (D ++ q ++ [Gen.Static.indexName]) = .reg c :=
    (chkAt_reg hall (by simp) c).mpr ⟨hserv, hidx⟩
  rw [(serve_pages cfg hp hD hD0 hdir fs _).1, resolve_append_slash, resolve_urlOf hq,
    if_pos (List.prefix_append _ _), primary, keepSlash_append_slash, if_pos rfl,
    chosen_index fs D (by simp [hD0]), hreg]
  rfl

/-- **C07.4c** the `.html` fallback: when nothing exists at `/q₁/…/qₙ` (n ≥ 1, the URL not
already ending in `.html`) but `qₙ.html` is a regular file next to it, that file is served. -/
theorem pages_html_fallback (cfg : Cfg) (hp : cfg.pages = true) {D : List Str}
    (hD : ∀ s ∈ D, Ordinary s) (hD0 : D ≠ []) (hdir : cfg.dir = render D) (fs : FS)
    (q : List Str) (hq : ∀ s ∈ q, Ordinary s) (hq0 : q ≠ [])
    (hnothing : fs (D ++ q) = .missing ∨ fs (D ++ q) = .notDir)
    (hnothtml : Gen.Static.htmlSuffixTest.isSuffixOf (urlOf q) = false) (c : List Nat)
    (hfile : fs (appendLast (D ++ q) Gen.Static.htmlSuffix) = .file c)
    (hserv : Servable (render (appendLast (D ++ q) Gen.Static.htmlSuffix))) :
    (serve cfg fs (urlOf q)).resp = .file c := by
  have hall := List.forall_mem_append.mpr ⟨hD, hq⟩
  have hne : D ++ q ≠ D := fun e => hq0 (List.append_right_eq_self.mp e)
  have hne0 : D ++ q ≠ [] := by simp [hD0]
  have hfirst : chkAt fs (D ++ q) = .absent := by
    rw [chkAt_eq hall hne0]
    rcases hnothing with h | h <;> simp [h]
  have hsuf : Gen.Static.htmlSuffixTest.isSuffixOf (render (D ++ q)) = false := by
    rw [← hnothtml, isSuffixOf_render_append (by decide) hD0 hq0]
  have hreg : chkAt fs (appendLast (D ++ q) Gen.Static.htmlSuffix) = .reg c :=
    (chkAt_reg (appendLast_ordinary hall (by decide)) ((prefix_appendLast (List.prefix_append D q) hne _).ne_nil hD0) c).mpr
      ⟨hserv, hfile⟩
  rw [serve_pages_urlOf cfg hp hD hD0 hdir fs hq, chosen, if_pos ⟨hfirst, hsuf, hne⟩, hreg]
  rfl

/-- **C07.4d** everything else: `Pages` answers with a file, with 404, or with a redirect
to exactly the request path + `/`; only while building the redirect URL for a request
path that is not text (contains a surrogate code point — known finding
`pages-redirect-unencodable-path`) can an exception leave the app (ASGI) or the Location
name a different URL (WSGI: U+FFFD in place of the undecodable bytes). -/
theorem pages_otherwise (cfg : Cfg) (hp : cfg.pages = true) {D : List Str}
    (hD : ∀ s ∈ D, Ordinary s) (hD0 : D ≠ []) (hdir : cfg.dir = render D) (fs : FS) (path : Str) :
    (serve cfg fs path).resp = .notFound ∨ (∃ c, (serve cfg fs path).resp = .file c) ∨
      (serve cfg fs path).resp = .redirect (path ++ [47]) ∨
      (path.any isSurrogate = true ∧
        ((∃ cls, (serve cfg fs path).resp = .crash cls) ∨ (serve cfg fs path).resp = .redirectReplaced)) := by
  rw [(serve_pages cfg hp hD hD0 hdir fs path).1]
  split
  · cases h : chkAt fs (chosen fs D (primary path (resolve D path))) with
    | reg c => exact Or.inr (Or.inl ⟨c, rfl⟩)
    | other => exact Or.inr (Or.inr (redirectTo_cases cfg.wsgi path))
    | absent => exact Or.inl rfl
    | raised cls => exact absurd h (chkAt_ne_raised _ _ _)
  · exact Or.inl rfl

def NoHtmlDirs (fs : FS) : Prop :=
  ∀ (S : List Str) (x : Str), fs (S ++ [x]) = .dir → Gen.Static.htmlSuffix.isSuffixOf x = false

/-- **C07.4e (partial)** if `Pages` redirects, the request path has no trailing slash and resolves
lexically to a directory at or below `D` — provided no directory has a name ending in `.html`
(`NoHtmlDirs`).  Without the proviso it is false (`pages_redirect_witness`): a directory `d/index.html/`
makes `/d/` redirect to `/d//` (known finding `pages-html-named-directory`). -/
theorem pages_redirect_sound_partial (cfg : Cfg) (hp : cfg.pages = true) {D : List Str}
    (hD : ∀ s ∈ D, Ordinary s) (hD0 : D ≠ []) (hdir : cfg.dir = render D) (fs : FS)
    (hnd : NoHtmlDirs fs) (path t : Str) (h : (serve cfg fs path).resp = .redirect t) :
    t = path ++ [47] ∧ keepSlash path = false ∧ D <+: resolve D path ∧ fs (resolve D path) = .dir := by
  have hR := resolve_ordinary hD path
  rw [(serve_pages cfg hp hD hD0 hdir fs path).1] at h
  by_cases hpre : D <+: resolve D path
  · rw [if_pos hpre] at h
    obtain ⟨hother, rfl⟩ := chkResp_redirect h
    have hP := primary_ordinary path hR
    have hpP := prefix_primary path hpre
    have hR0 := hpre.ne_nil hD0
    have hdirC := ((chkAt_other (chosen_ordinary fs D hP) ((prefix_chosen fs hpP).ne_nil hD0)).mp hother).2
    -- the location settled on is a directory, so its name does not end in `.html`: it is `R` itself
    have hx : ∀ S x, chosen fs D (primary path (resolve D path)) = S ++ [x] →
        Gen.Static.htmlSuffix.isSuffixOf x = false := fun S x e => hnd S x (e ▸ hdirC)
    unfold primary at hx hdirC
    cases hk : keepSlash path
    · rw [hk] at hx hdirC
      simp only [Bool.false_eq_true, if_false] at hx hdirC
      refine ⟨rfl, rfl, hpre, ?_⟩
      rcases chosen_eq fs D (resolve D path) with e | ⟨_, e⟩
      · exact e ▸ hdirC
      · obtain ⟨S, l, e'⟩ := appendLast_eq_concat hR0 Gen.Static.htmlSuffix
        have := hx S _ (e.trans e')
        rw [List.isSuffixOf_iff_suffix.mpr (List.suffix_append _ _)] at this
        cases this
    · rw [hk, if_pos rfl, chosen_index fs D hR0] at hx
      exact absurd (hx _ _ rfl) (by decide)
  · rw [if_neg hpre] at h
    cases h

/-- **C07.5** no exception leaves `Files` for any request path; none leaves `Pages` for a
request path that is text (no surrogate code point).  `NotADirectoryError`
(`/file.txt/x`), `ValueError` (NUL), `UnicodeEncodeError`, `OSError(ENAMETOOLONG)` of
`os.stat` are all answered with 404 (`caught_all` in `Lemmas/Static.lean`, over the regenerated list of
caught classes). -/
theorem never_crashes (cfg : Cfg) {D : List Str} (hD : ∀ s ∈ D, Ordinary s) (hD0 : D ≠ [])
    (hdir : cfg.dir = render D) (fs : FS) (path : Str)
    (htext : cfg.pages = false ∨ path.any isSurrogate = false) (cls : String) :
    (serve cfg fs path).resp ≠ .crash cls := by
  intro h
  cases hp : cfg.pages with
  | false =>
    rcases files_otherwise_404 cfg hp hD hdir fs path with h' | ⟨c, h'⟩ <;> rw [h'] at h <;> cases h
  | true =>
    have ht : path.any isSurrogate = false := htext.resolve_left (by simp [hp])
    rcases pages_otherwise cfg hp hD hD0 hdir fs path with h' | ⟨c, h'⟩ | h' | ⟨hs, _⟩
    · rw [h'] at h; cases h
    · rw [h'] at h; cases h
    · rw [h'] at h; cases h
    · rw [ht] at hs; cases hs

/-- `srv` -/
abbrev SRV : Str := [115, 114, 118]
/-- `wwwX` -/
abbrev WWWX : Str := [119, 119, 119, 88]
/-- `www` -/
abbrev WWW : Str := [119, 119, 119]
/-- `file.txt` -/
abbrev FILETXT : Str := [102, 105, 108, 101, 46, 116, 120, 116]
/-- `..name` -/
abbrev DDNAME : Str := [46, 46, 110, 97, 109, 101]
/-- `x.html` -/
abbrev XHTML : Str := [120, 46, 104, 116, 109, 108]
/-- `index.html` -/
abbrev INDEX : Str := [105, 110, 100, 101, 120, 46, 104, 116, 109, 108]
/-- `dir` -/
abbrev DIR : Str := [100, 105, 114]
/-- `secret` -/
abbrev SECRET : Str := [115, 101, 99, 114, 101, 116]
/-- `%2e%2e` -/
abbrev PCT2E2E : Str := [37, 50, 101, 37, 50, 101]
/-- `.html` -/
abbrev HTML : Str := [46, 104, 116, 109, 108]
/-- `x` -/
abbrev X : Str := [120]
/-- `/dir/` -/
abbrev URL_DIR_SLASH : Str := [47, 100, 105, 114, 47]
/-- `/a/../../wwwX/secret` -/
abbrev URL_ESCAPE : Str := [47, 97, 47, 46, 46, 47, 46, 46, 47, 119, 119, 119, 88, 47, 115, 101, 99, 114, 101, 116]
/-- `/dir/../..name/` -/
abbrev URL_BACK_IN : Str := [47, 100, 105, 114, 47, 46, 46, 47, 46, 46, 110, 97, 109, 101, 47]
/-- `/x` -/
abbrev URL_X : Str := [47, 120]
/-- `/file.txt/x` -/
abbrev URL_FILE_X : Str := [47, 102, 105, 108, 101, 46, 116, 120, 116, 47, 120]
/-- `/file.txt` -/
abbrev URL_FILE : Str := [47, 102, 105, 108, 101, 46, 116, 120, 116]
/-- `/a\0/..` -/
abbrev URL_NUL : Str := [47, 97, 0, 47, 46, 46]

/-- the directory `/srv/www` -/
def exD : List Str := [SRV, WWW]
def exFiles : Cfg := ⟨render exD, [47], false, true⟩
def exPages : Cfg := ⟨render exD, [47], true, false⟩

/-- a small world: `/srv/www/{file.txt, ..name, x.html, index.html, dir/index.html}`,
a secret next to the directory and a sibling sharing its name prefix -/
def exFS : FS := fun k =>
  if k = [SRV, WWW, FILETXT] then .file [1, 2, 3]
  else if k = [SRV, WWW, DDNAME] then .file [4]
  else if k = [SRV, WWW, XHTML] then .file [5]
  else if k = [SRV, WWW, INDEX] then .file [6]
  else if k = [SRV, WWW, DIR, INDEX] then .file [7]
  else if k = [SRV, SECRET] then .file [66]
  else if k = [SRV, WWWX, SECRET] then .file [67]
  else if k = [] ∨ k = [SRV] ∨ k = [SRV, WWW] ∨ k = [SRV, WWW, DIR] ∨ k = [SRV, WWWX] then .dir
  else if [SRV, WWW, FILETXT] <+: k then .notDir
  else .missing

/-- the same world with a directory named `index.html` inside `dir` -/
def exFSHtmlDir : FS := fun k => if k = [SRV, WWW, DIR, INDEX] then .dir else exFS k

theorem exD_ordinary : ∀ s ∈ exD, Ordinary s := by decide +kernel

/-- **witness (finding pages-html-named-directory)**: with a directory `dir/index.html/`,
`Pages` answers `/dir/` — a URL WITH trailing slash — with a redirect to `/dir//`; so
`NoHtmlDirs` can not be dropped from `pages_redirect_sound_partial`. -/
theorem pages_redirect_witness :
    (serve exPages exFSHtmlDir URL_DIR_SLASH).resp = .redirect (URL_DIR_SLASH ++ [47]) ∧
      keepSlash URL_DIR_SLASH = true ∧ ¬ NoHtmlDirs exFSHtmlDir := by
  refine ⟨by decide +kernel, by decide +kernel, ?_⟩
  intro h
  have := h [SRV, WWW, DIR] INDEX (by decide +kernel)
  revert this
  decide +kernel

/-- **witness (finding pages-redirect-unencodable-path)**: `/\udcff/..` resolves to the
directory, and building the redirect URL raises; so the text hypothesis of
`never_crashes` can not be dropped for `Pages`. -/
theorem pages_crash_witness :
    (serve exPages exFS [47, 0xDCFF, 47, 46, 46]).resp = .crash "UnicodeEncodeError" := by decide +kernel

/-- **regression** (the escape test once was `relpath.startswith("..")` and answered `/..name` with 404):
names that merely start with two dots, or spell `..` with percent signs, are ordinary names:
`completeness` applies to them. -/
theorem dotdot_names_are_ordinary :
    Ordinary DDNAME ∧ Ordinary [46, 46, 46] ∧ Ordinary PCT2E2E ∧ Ordinary [46, 104] := by decide +kernel

/-- **tie to the source**: the literals and exception classes the proofs above were written
for, regenerated from the baize sources on every run; both interfaces agree (of the constants of
`Pages` the model reads the WSGI ones; the `asgi…` twins enter through the last five equations only). -/
theorem source_pinned :
    Gen.Static.slashLit = [47] ∧ Gen.Static.slashTestIsSuffix = true ∧
    Gen.Static.escEq = [[46, 46]] ∧ Gen.Static.escPrefix = [[46, 46, 47]] ∧
    Gen.Static.caughtStat = ["FileNotFoundError", "NotADirectoryError", "ValueError"] ∧
    Gen.Static.caughtErrno = ["ENAMETOOLONG"] ∧
    Gen.Static.pagesSlashLit = [47] ∧ Gen.Static.indexName = INDEX ∧
    Gen.Static.htmlSuffixTest = HTML ∧ Gen.Static.htmlSuffix = HTML ∧
    Gen.Static.redirectStatus = 307 ∧
    Gen.Static.asgiPagesSlashLit = Gen.Static.pagesSlashLit ∧
    Gen.Static.asgiIndexName = Gen.Static.indexName ∧
    Gen.Static.asgiHtmlSuffixTest = Gen.Static.htmlSuffixTest ∧
    Gen.Static.asgiHtmlSuffix = Gen.Static.htmlSuffix ∧
    Gen.Static.asgiRedirectStatus = Gen.Static.redirectStatus := by decide +kernel

-- C07.0: `/a/../../wwwX/secret` leaves the directory, `/dir/../..name/` stays inside
example : (baseEnsure exFiles URL_ESCAPE).toOption = some none := by decide +kernel
example : (baseEnsure exFiles URL_BACK_IN).toOption = some (some (render [SRV, WWW, DDNAME] ++ [47])) := by decide +kernel
example := ensure_spec exFiles exD_ordinary rfl URL_ESCAPE
-- C07.1: the accesses of a fallback request are inside
example : (serve exPages exFS URL_X).log =
    [.stat (render [SRV, WWW, X]), .stat (render [SRV, WWW, XHTML]), .opened (render [SRV, WWW, XHTML])] := by
  decide +kernel
example := confinement exPages exD_ordinary (by decide +kernel) rfl exFS URL_X
-- C07.2
example : (serve exFiles exFS URL_FILE).resp = .file [1, 2, 3] :=
  (files_serves_iff exFiles rfl exD_ordinary (by decide +kernel) rfl exFS URL_FILE [1, 2, 3]).mpr (by decide +kernel)
example : (serve exFiles exFS URL_ESCAPE).resp = .notFound := by decide +kernel
example : (serve exFiles exFS URL_FILE_X).resp = .notFound := by decide +kernel
example := files_otherwise_404 exFiles rfl exD_ordinary rfl exFS URL_FILE_X
example := pages_serves_lexical exPages rfl exD_ordinary (by decide +kernel) rfl exFS URL_X [5] (by decide +kernel)
-- C07.3: `..name` is served at `/..name` by both apps
example : (serve exFiles exFS (urlOf [DDNAME])).resp = .file [4] :=
  completeness exFiles exD_ordinary (by decide +kernel) rfl exFS [DDNAME] (by decide +kernel) [4] (by decide +kernel) (by decide +kernel)
example : (serve exPages exFS (urlOf [DIR, INDEX])).resp = .file [7] :=
  completeness exPages exD_ordinary (by decide +kernel) rfl exFS [DIR, INDEX] (by decide +kernel) [7] (by decide +kernel) (by decide +kernel)
-- C07.4
example : (serve exPages exFS (urlOf [DIR])).resp = .redirect (urlOf [DIR] ++ [47]) :=
  pages_dir_redirect exPages rfl exD_ordinary (by decide +kernel) rfl exFS [DIR] (by decide +kernel) (by decide +kernel) (by decide +kernel)
    (by decide +kernel)
example : (serve exPages exFS (urlOf [DIR] ++ [47])).resp = .file [7] :=
  pages_dir_index exPages rfl exD_ordinary (by decide +kernel) rfl exFS [DIR] (by decide +kernel) [7] (by decide +kernel) (by decide +kernel)
example : (serve exPages exFS (urlOf [] ++ [47])).resp = .file [6] :=
  pages_dir_index exPages rfl exD_ordinary (by decide +kernel) rfl exFS [] (by decide +kernel) [6] (by decide +kernel) (by decide +kernel)
example : (serve exPages exFS (urlOf [X])).resp = .file [5] :=
  pages_html_fallback exPages rfl exD_ordinary (by decide +kernel) rfl exFS [X] (by decide +kernel) (by decide +kernel)
    (by decide +kernel) (by decide +kernel) [5] (by decide +kernel) (by decide +kernel)
example := pages_otherwise exPages rfl exD_ordinary (by decide +kernel) rfl exFS URL_ESCAPE
-- C07.4e: the example world has no directory named *.html, and `/dir` is redirected; what is shown is the
-- `keepSlash` conjunct of the conclusion (the `∧ True` says nothing)
private theorem exFS_dir {k : List Str} (h : exFS k = .dir) :
    k = [] ∨ k = [SRV] ∨ k = [SRV, WWW] ∨ k = [SRV, WWW, DIR] ∨ k = [SRV, WWWX] := by
  unfold exFS at h
  grind

private theorem exFS_noHtmlDirs : NoHtmlDirs exFS := by
  intro S x h
  have hx : (S ++ [x]).getLast? = some x := by simp
  rcases exFS_dir h with hk | hk | hk | hk | hk <;> rw [hk] at hx <;> cases hx <;> decide
example : keepSlash (urlOf [DIR]) = false ∧ True :=
  ⟨(pages_redirect_sound_partial exPages rfl exD_ordinary (by decide +kernel) rfl exFS exFS_noHtmlDirs
      (urlOf [DIR]) (urlOf [DIR] ++ [47]) (by decide +kernel)).2.1, trivial⟩
example : ∀ cls, (serve exFiles exFS URL_FILE_X).resp ≠ .crash cls :=
  never_crashes exFiles exD_ordinary (by decide +kernel) rfl exFS URL_FILE_X (Or.inl rfl)
example : ∀ cls, (serve exPages exFS URL_NUL).resp ≠ .crash cls :=
  never_crashes exPages exD_ordinary (by decide +kernel) rfl exFS URL_NUL (Or.inr (by decide +kernel))

end Baize.Static
