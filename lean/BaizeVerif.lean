-- GENERATED by tools/mkdriver.py: root of the `BaizeVerif` library (every model and property file).
import BaizeVerif.Model.Wire
import BaizeVerif.Model.Multipart
import BaizeVerif.Model.FileResponse
import BaizeVerif.Model.Range
import BaizeVerif.Model.Equiv
import BaizeVerif.Model.Gateway
import BaizeVerif.Model.Stream
import BaizeVerif.Model.StreamAsgi
import BaizeVerif.Model.StreamWsgi
import BaizeVerif.Model.Static
import BaizeVerif.Model.Router
import BaizeVerif.Model.Mount
import BaizeVerif.Model.Body
import BaizeVerif.Model.WebSocket
import BaizeVerif.Model.Errors
import BaizeVerif.Model.Cookie
import BaizeVerif.Model.Headers
import BaizeVerif.Model.Conditional
import BaizeVerif.Model.MultiMap
import BaizeVerif.Model.Url
import BaizeVerif.Model.SSE
import BaizeVerif.Model.Middleware
import BaizeVerif.Props.C01
import BaizeVerif.Lemmas.FileResponse
import BaizeVerif.Props.C02
import BaizeVerif.Lemmas.Range
import BaizeVerif.Props.C03
import BaizeVerif.Props.C04
import BaizeVerif.Props.C05
import BaizeVerif.Props.C06
import BaizeVerif.Lemmas.Static
import BaizeVerif.Props.C07
import BaizeVerif.Props.C08
import BaizeVerif.Props.C09
import BaizeVerif.Props.C10
import BaizeVerif.Props.C11
import BaizeVerif.Lemmas.Errors
import BaizeVerif.Props.C12
import BaizeVerif.Props.C13
import BaizeVerif.Lemmas.Conditional
import BaizeVerif.Props.C14
import BaizeVerif.Props.C15
import BaizeVerif.Props.C16
import BaizeVerif.Props.C17
import BaizeVerif.Props.C18
import BaizeVerif.Lemmas.SSE
import BaizeVerif.Lemmas.SSEClient
import BaizeVerif.Props.C19
import BaizeVerif.Props.C20
